import BleveModel.Proto
import BleveModel.Model.Numeric
import BleveModel.Lemmas.Numeric
import BleveModel.Props.C07
import BleveModel.Drv.C07
import BleveModel.Model.TopN
import BleveModel.Lemmas.TopN
import BleveModel.Model.Collector
import BleveModel.Lemmas.Collector
import BleveModel.Props.C06
import BleveModel.Drv.C06
import BleveModel.Model.KV
import BleveModel.Props.C15
import BleveModel.Drv.C15
import BleveModel.Model.Facet
import BleveModel.Props.C10
import BleveModel.Drv.C10
import BleveModel.Model.Alias
import BleveModel.Lemmas.Alias
import BleveModel.Props.C09
import BleveModel.Drv.C09
import BleveModel.Model.Query
import BleveModel.Props.C02
import BleveModel.Props.C08
import BleveModel.Drv.C02
import BleveModel.Model.IndexSpec
import BleveModel.Props.C01
import BleveModel.Drv.C01
import BleveModel.Model.Retention
import BleveModel.Props.C13
import BleveModel.Drv.C13
import BleveModel.Model.Codec
import BleveModel.Lemmas.Codec
import BleveModel.Props.C16
import BleveModel.Props.C17
import BleveModel.Model.Text
import BleveModel.Props.C19
import BleveModel.Drv.C19
import BleveModel.Model.Geo
import BleveModel.Props.C18
import BleveModel.Drv.C18
import BleveModel.Model.Nested
import BleveModel.Props.C20
import BleveModel.Drv.C20
import BleveModel.Model.Snapshot
import BleveModel.Lemmas.Asc
import BleveModel.Lemmas.Assoc
import BleveModel.Lemmas.Snapshot
import BleveModel.Props.Snapshot
import BleveModel.Props.C05
import BleveModel.Drv.Snap
import BleveModel.Model.History
import BleveModel.Props.C04
import BleveModel.Drv.C04
import BleveModel.Model.Durable
import BleveModel.Props.C03
import BleveModel.Drv.C03
import BleveModel.Model.Files
import BleveModel.Props.C12
import BleveModel.Drv.C12
import BleveModel.Props.C14
import BleveModel.Drv.C14
import BleveModel.Model.Lifecycle
import BleveModel.Props.C11
import BleveModel.Drv.C11
import BleveModel.Model.BoolSearcher
import BleveModel.Props.BoolSearcher
import BleveModel.Props.BoolLink
import BleveModel.Model.ConjSearcher
import BleveModel.Props.ConjSearcher
import BleveModel.Model.DisjSearcher
import BleveModel.Props.DisjSearcher
import BleveModel.Props.Compose
import BleveModel.Model.Highlight
import BleveModel.Props.Highlight
import BleveModel.Props.C10Ranges
import BleveModel.Model.QueryString
import BleveModel.Props.QueryString
import BleveModel.Model.Phrase
import BleveModel.Props.Phrase
