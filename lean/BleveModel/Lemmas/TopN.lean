import BleveModel.Model.TopN
/-! Proofs about the generic top-N collection model: the bounded store with its eviction shortcut holds
    the first `k` of the insertion-sorted list of what it has seen (`Inv`, `handle_inv`), so collecting
    is a page of the reference sort (`collect_eq_page`). -/
namespace Bleve.TopN

variable {α : Type} {κ : Type}

/-- what the proofs need from "sorts before": a strict order that is total on elements with
    different keys (for matches the key is the hit number) -/
structure Ord (lt : α → α → Bool) (key : α → κ) : Prop where
  irrefl : ∀ a, lt a a = false
  trans : ∀ a b c, lt a b = true → lt b c = true → lt a c = true
  total : ∀ a b, key a ≠ key b → lt a b = true ∨ lt b a = true

def Sorted (lt : α → α → Bool) (l : List α) : Prop := l.Pairwise (fun a b => lt a b = true)

variable {lt : α → α → Bool} {key : α → κ}

theorem Ord.asymm (h : Ord lt key) {a b : α} (hab : lt a b = true) : lt b a = false :=
  Bool.eq_false_iff.2 fun hba => by simpa [h.irrefl] using h.trans a b a hab hba

theorem Ord.of_not_lt (h : Ord lt key) {a b : α} (hk : key a ≠ key b) (hab : lt a b = false) :
    lt b a = true :=
  (h.total a b hk).resolve_left (by simp [hab])

theorem Ord.flip (h : Ord lt key) : Ord (fun a b => lt b a) key :=
  ⟨h.irrefl, fun a b c h1 h2 => h.trans c b a h2 h1, fun a b hk => (h.total a b hk).symm⟩

theorem inj_of_nodup_map (f : α → κ) {l : List α} (hn : (l.map f).Nodup) :
    ∀ a ∈ l, ∀ b ∈ l, f a = f b → a = b := by
  -- `Nodup` of the images is a pairwise fact; being symmetric, it holds of any two members in either order
  have hp : l.Pairwise (fun a b => f a = f b → a = b) :=
    (List.pairwise_map.1 hn).imp fun hne he => absurd he hne
  exact fun a ha b hb => List.Pairwise.forall_of_forall_of_flip (fun _ _ _ => rfl) hp
    (hp.imp fun h he => (h he.symm).symm) ha hb

/-- induction over a list from its end: `isort` and the collector both consume their input by
    `foldl`, so what they have done after `p ++ [d]` is one step after `p` -/
theorem snoc_induction {P : List α → Prop} (nil : P []) (snoc : ∀ p d, P p → P (p ++ [d])) :
    ∀ l, P l := by
  intro l
  rw [← l.reverse_reverse]
  induction l.reverse with
  | nil => exact nil
  | cons d r ih => rw [List.reverse_cons]; exact snoc _ _ ih

/-! ### insertion -/

theorem ins_perm (lt : α → α → Bool) (d : α) (l : List α) : (ins lt d l).Perm (d :: l) := by
  induction l with
  | nil => exact .refl _
  | cons x xs ih =>
    simp only [ins]
    split
    · exact .refl _
    · exact (ih.cons x).trans (.swap d x xs)

theorem insRev_perm (lt : α → α → Bool) (d : α) (l : List α) : (insRev lt d l).Perm (d :: l) := by
  induction l with
  | nil => exact .refl _
  | cons x xs ih =>
    simp only [insRev]
    split
    · exact (ih.cons x).trans (.swap d x xs)
    · exact .refl _

theorem addBack_perm (lt : α → α → Bool) (d : α) (l : List α) : (addBack lt d l).Perm (d :: l) :=
  (List.reverse_perm _).trans ((insRev_perm lt d _).trans ((List.reverse_perm l).cons d))

theorem ins_length (lt : α → α → Bool) (d : α) (l : List α) : (ins lt d l).length = l.length + 1 :=
  (ins_perm lt d l).length_eq

theorem mem_ins (lt : α → α → Bool) (d z : α) (l : List α) : z ∈ ins lt d l ↔ z = d ∨ z ∈ l := by
  rw [(ins_perm lt d l).mem_iff, List.mem_cons]

theorem ins_sorted (h : Ord lt key) {d : α} {l : List α}
    (hs : Sorted lt l) (hk : ∀ x ∈ l, key x ≠ key d) : Sorted lt (ins lt d l) := by
  induction l with
  | nil => simp [ins, Sorted]
  | cons x xs ih =>
    have ⟨hx, hxs⟩ := List.pairwise_cons.1 hs
    simp only [ins]
    split
    · next hdx =>
      exact List.pairwise_cons.2 ⟨List.forall_mem_cons.2 ⟨hdx, fun y hy => h.trans _ _ _ hdx (hx y hy)⟩, hs⟩
    · next hdx =>
      refine List.pairwise_cons.2 ⟨fun z hz => ?_, ih hxs fun y hy => hk y (.tail _ hy)⟩
      rcases (mem_ins lt d z xs).1 hz with rfl | hz
      · exact h.of_not_lt (hk x (.head _)).symm (by simpa using hdx)
      · exact hx z hz

theorem sorted_unique (h : Ord lt key) {l₁ l₂ : List α}
    (h1 : Sorted lt l₁) (h2 : Sorted lt l₂) (hp : l₁.Perm l₂) : l₁ = l₂ :=
  hp.eq_of_pairwise (fun a b _ _ hab hba => by simp [h.asymm hab] at hba) h1 h2

/-- where the order decides, the slice store's scan from the back is ordered insertion for the
    reversed order -/
theorem insRev_eq_ins (h : Ord lt key) {d : α} {l : List α} (hk : ∀ x ∈ l, key x ≠ key d) :
    insRev lt d l = ins (fun a b => lt b a) d l := by
  induction l with
  | nil => rfl
  | cons x xs ih =>
    simp only [insRev, ins, ih fun y hy => hk y (.tail _ hy)]
    cases hdx : lt d x
    · simp [h.of_not_lt (hk x (.head _)).symm hdx]
    · simp [h.asymm hdx]

theorem addBack_eq_ins (h : Ord lt key) {d : α} {l : List α}
    (hs : Sorted lt l) (hk : ∀ x ∈ l, key x ≠ key d) : addBack lt d l = ins lt d l := by
  refine sorted_unique h ?_ (ins_sorted h hs hk)
    ((addBack_perm lt d l).trans (ins_perm lt d l).symm)
  have hk' : ∀ x ∈ l.reverse, key x ≠ key d := fun x hx => hk x (List.mem_reverse.1 hx)
  rw [addBack, insRev_eq_ins h hk', Sorted, List.pairwise_reverse]
  exact ins_sorted h.flip (List.pairwise_reverse.2 hs) hk'

theorem take_ins (lt : α → α → Bool) (d : α) : ∀ (l : List α) (n : Nat),
    (ins lt d l).take n = (ins lt d (l.take n)).take n
  | [], _ => by simp
  | _ :: _, 0 => by simp
  | x :: xs, n + 1 => by
    simp only [List.take_succ_cons, ins]
    split
    · cases n <;> simp [List.take_take]
    · rw [List.take_succ_cons, List.take_succ_cons, take_ins lt d xs n]

theorem ins_append_of_ge {d : α} {a : List α} (h : ∀ x ∈ a, lt d x = false) (b : List α) :
    ins lt d (a ++ b) = a ++ ins lt d b := by
  induction a with
  | nil => rfl
  | cons x xs ih =>
    simp only [List.cons_append, ins, h x (.head _), Bool.false_eq_true, if_false]
    rw [ih fun y hy => h y (.tail _ hy)]

theorem ins_append_of_lt {d l : α} (hdl : lt d l = true) (s t : List α) :
    ins lt d (s ++ l :: t) = ins lt d s ++ l :: t := by
  induction s with
  | nil => simp [ins, hdl]
  | cons x xs ih =>
    simp only [List.cons_append, ins]
    split
    · rfl
    · rw [ih]; rfl

/-! ### the reference sort -/

theorem isort_snoc (lt : α → α → Bool) (p : List α) (d : α) :
    isort lt (p ++ [d]) = ins lt d (isort lt p) := by
  simp [isort]

theorem isort_perm (lt : α → α → Bool) (l : List α) : (isort lt l).Perm l := by
  induction l using snoc_induction with
  | nil => exact .refl _
  | snoc p d ih =>
    rw [isort_snoc]
    exact (ins_perm lt d _).trans ((ih.cons d).trans (List.perm_append_singleton d p).symm)

theorem mem_isort (lt : α → α → Bool) (x : α) (l : List α) : x ∈ isort lt l ↔ x ∈ l :=
  (isort_perm lt l).mem_iff

theorem isort_sorted (h : Ord lt key) (l : List α) (hk : (l.map key).Nodup) :
    Sorted lt (isort lt l) := by
  induction l using snoc_induction with
  | nil => exact .nil
  | snoc p d ih =>
    rw [List.map_append, List.nodup_append] at hk
    rw [isort_snoc]
    exact ins_sorted h (ih hk.1) fun x hx =>
      hk.2.2 _ (List.mem_map_of_mem ((mem_isort lt x p).1 hx)) _ (.head _)

/-- the reference sort does not depend on the sorting algorithm: any sorted permutation is it -/
theorem isort_eq_of_sorted_perm (h : Ord lt key) {ms L : List α} (hk : (ms.map key).Nodup)
    (hp : L.Perm ms) (hs : Sorted lt L) : isort lt ms = L :=
  sorted_unique h (isort_sorted h ms hk) hs ((isort_perm lt ms).trans hp.symm)

theorem isort_filter (h : Ord lt key) (P : α → Bool) (l : List α) (hk : (l.map key).Nodup) :
    isort lt (l.filter P) = (isort lt l).filter P :=
  isort_eq_of_sorted_perm h ((List.filter_sublist.map key).nodup hk) ((isort_perm lt l).filter P)
    ((isort_sorted h l hk).filter P)

theorem filter_lt_of_sorted (h : Ord lt key) (pre post : List α) (x : α)
    (hs : Sorted lt (pre ++ x :: post)) : (pre ++ x :: post).filter (lt x) = post := by
  obtain ⟨-, hpost, hpre⟩ := List.pairwise_append.1 hs
  rw [List.filter_append, List.filter_cons, h.irrefl, List.filter_eq_nil_iff.2,
    List.filter_eq_self.2 (List.pairwise_cons.1 hpost).1]
  · rfl
  · exact fun y hy => by simp [h.asymm (hpre y hy x (.head _))]

/-! ### the bounded store -/

/-- the collector invariant, `S` being the sorted list of the matches seen so far: either nothing
    has been evicted and the store is `S`, or the store holds the first `k` of `S` and
    `lowest` is the next one -/
inductive Inv (k : Nat) : St α → List α → Prop
  | all (S : List α) : S.length ≤ k → Inv k ⟨S, none⟩ S
  | cut (A : List α) (l : α) (B : List α) : A.length = k → Inv k ⟨A, some l⟩ (A ++ l :: B)

theorem Inv.store {k : Nat} {st : St α} {S : List α} (hinv : Inv k st S) : st.store = S.take k := by
  cases hinv with
  | all S hS => exact (List.take_of_length_le hS).symm
  | cut A l B hA => exact (List.take_left' hA).symm

theorem exists_concat_of_length {s : List α} {k : Nat} (h : s.length = k + 1) :
    ∃ ys r, s = ys ++ [r] ∧ ys.length = k := by
  rcases List.eq_nil_or_concat s with rfl | ⟨ys, r, rfl⟩
  · cases h
  · exact ⟨ys, r, by simp, by simpa using h⟩

theorem handle_inv (h : Ord lt key) {k : Nat} {st : St α} {S : List α} {d : α} (hS : Sorted lt S)
    (hd : ∀ x ∈ S, key x ≠ key d) (hinv : Inv k st S) :
    Inv k (handle lt k st d) (ins lt d S) := by
  cases hinv with
  | all S hlen =>
    simp only [handle, addBack_eq_ins h hS hd]
    have hl := ins_length lt d S
    split
    · -- the store overflows for the first time: its last element is evicted and becomes `lowest`
      obtain ⟨ys, r, hys, hk⟩ := exists_concat_of_length (s := ins lt d S) (k := k) (by omega)
      simpa [hys] using Inv.cut ys r [] hk
    · exact .all _ (by omega)
  | cut A l B hA =>
    obtain ⟨hsA, -, hAl⟩ := List.pairwise_append.1 hS
    have hAl : ∀ x ∈ A, lt x l = true := fun x hx => hAl x hx l (.head _)
    simp only [handle]
    cases hdl : lt d l with
    | false =>
      -- `d` sorts after `l`, so after everything up to `l`: the first `k + 1` stay
      have hld := h.of_not_lt (hd l (by simp)).symm hdl
      rw [ins_append_of_ge fun x hx => h.asymm (h.trans _ _ _ (hAl x hx) hld)]
      simpa [ins, hdl] using Inv.cut A l (ins lt d B) hA
    | true =>
      -- `d` enters the store, whose last element is evicted and sorts before `l`
      rw [ins_append_of_lt hdl, addBack_eq_ins h hsA fun x hx => hd x (List.mem_append_left _ hx)]
      have hl := ins_length lt d A
      obtain ⟨ys, r, hys, hk⟩ := exists_concat_of_length (k := k) (hl.trans (by rw [hA]))
      have hrl : lt r l = true := by
        rcases (mem_ins lt d r A).1 (hys ▸ List.mem_concat_self) with rfl | hr
        · exact hdl
        · exact hAl r hr
      simpa [hys, hk, hrl] using Inv.cut ys r (l :: B) hk

theorem foldl_handle_store (h : Ord lt key) (k : Nat) (ms : List α) (hk : (ms.map key).Nodup) :
    (ms.foldl (handle lt k) ⟨[], none⟩).store = (isort lt ms).take k := by
  suffices Inv k (ms.foldl (handle lt k) ⟨[], none⟩) (isort lt ms) from this.store
  induction ms using snoc_induction with
  | nil => exact .all [] (Nat.zero_le k)
  | snoc p d ih =>
    rw [List.map_append, List.nodup_append] at hk
    rw [List.foldl_append, isort_snoc]
    exact handle_inv h (isort_sorted h p hk.1) (fun x hx =>
      hk.2.2 _ (List.mem_map_of_mem ((mem_isort lt x p).1 hx)) _ (.head _)) (ih hk.1)

theorem page_eq_drop_take (lt : α → α → Bool) (size skip : Nat) (ms : List α) :
    page lt size skip ms = ((isort lt ms).take (size + skip)).drop skip := by
  rw [page, List.drop_take, Nat.add_sub_cancel]

/-- **Main theorem**: for every match stream whose elements have distinct keys, every size and
    skip, the collector's result is the requested slice of the fully sorted list. -/
theorem collect_eq_page (h : Ord lt key) (size skip : Nat)
    (ms : List α) (hk : (ms.map key).Nodup) : collect lt size skip ms = page lt size skip ms := by
  rw [collect, foldl_handle_store h _ ms hk, page_eq_drop_take]

theorem page_eq_of_sorted_perm (h : Ord lt key) (size skip : Nat)
    (ms L : List α) (hk : (ms.map key).Nodup) (hp : L.Perm ms) (hs : Sorted lt L) :
    page lt size skip ms = (L.drop skip).take size := by
  rw [page, isort_eq_of_sorted_perm h hk hp hs]

end Bleve.TopN
