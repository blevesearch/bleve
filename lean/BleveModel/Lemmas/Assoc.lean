/-!
Association lists read with `List.lookup` (the first entry of a key wins): what filtering on keys does
to a lookup, and that a list with distinct keys is determined, up to order, by its lookups.  The KV
store (`KV.get` is `List.lookup`), batches and the live documents of a snapshot are such lists.
-/
namespace Bleve.Assoc
variable {κ β : Type} [BEq κ]

theorem contains_keys (l : List (κ × β)) (k : κ) : (l.map (·.1)).contains k = (l.lookup k).isSome := by
  induction l with
  | nil => rfl
  | cons p l ih =>
    obtain ⟨k', v⟩ := p
    rw [List.map_cons, List.contains_cons, List.lookup_cons, ih]
    cases k == k' <;> rfl

variable [LawfulBEq κ]

theorem lookup_filter_key (f : κ → Bool) (l : List (κ × β)) (k : κ) :
    (l.filter (fun p => f p.1)).lookup k = if f k then l.lookup k else none := by
  induction l with
  | nil => simp
  | cons p l ih =>
    obtain ⟨k', v⟩ := p
    by_cases hk : k = k'
    · subst hk; cases hf : f k <;> simp [hf, ih]
    · have hb : (k == k') = false := by simpa using hk
      cases hf : f k' <;> simp [List.lookup_cons, hf, hb, ih]

theorem mem_of_lookup_eq_some {l : List (κ × β)} {k : κ} {v : β} (h : l.lookup k = some v) : (k, v) ∈ l := by
  obtain ⟨l₁, l₂, rfl, _⟩ := List.lookup_eq_some_iff.1 h
  simp

theorem lookup_eq_some_iff_mem {l : List (κ × β)} (hn : (l.map (·.1)).Nodup) {k : κ} {v : β} :
    l.lookup k = some v ↔ (k, v) ∈ l := by
  refine ⟨mem_of_lookup_eq_some, fun hm => ?_⟩
  obtain ⟨l₁, l₂, rfl⟩ := List.append_of_mem hm
  rw [List.map_append, List.nodup_append] at hn
  exact List.lookup_eq_some_iff.2 ⟨l₁, l₂, rfl, fun p hp =>
    bne_iff_ne.2 fun e => hn.2.2 _ (List.mem_map_of_mem hp) k List.mem_cons_self e.symm⟩

theorem lookup_eq_of_perm {l₁ l₂ : List (κ × β)} (hn : (l₁.map (·.1)).Nodup) (hp : l₁.Perm l₂) (k : κ) :
    l₁.lookup k = l₂.lookup k :=
  Option.ext fun v => by
    rw [lookup_eq_some_iff_mem hn, lookup_eq_some_iff_mem ((hp.map _).nodup_iff.1 hn), hp.mem_iff]

theorem perm_of_lookup_eq {l₁ l₂ : List (κ × β)} (h₁ : (l₁.map (·.1)).Nodup)
    (h₂ : (l₂.map (·.1)).Nodup) (h : ∀ k, l₁.lookup k = l₂.lookup k) : l₁.Perm l₂ := by
  have nd : ∀ {l : List (κ × β)}, (l.map (·.1)).Nodup → l.Nodup := fun hl =>
    List.Pairwise.of_map (·.1) (fun _ _ hab e => hab (by rw [e])) hl
  refine (List.perm_ext_iff_of_nodup (nd h₁) (nd h₂)).2 fun ⟨k, v⟩ => ?_
  rw [← lookup_eq_some_iff_mem h₁, ← lookup_eq_some_iff_mem h₂, h k]

end Bleve.Assoc
