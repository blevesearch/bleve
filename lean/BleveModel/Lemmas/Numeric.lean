import BleveModel.Model.Numeric
/-! Lemmas for the numeric model (C07).  A prefix coded term is `blockTerm s x`: it depends on the
value only through its block `x = v / 2^s`.  Order, injectivity and the decoding round trip are proved
for `blockTerm` and reach `prefixCode` and `termOf` through `prefixCode_eq_blockTerm`.
One round of range splitting is `mem_splitAux_succ`; `splitAux_cover` and `splitAux_nonempty` are
inductions over the rounds. -/
namespace Bleve.Numeric

/-! ### float ↔ sortable int -/

theorem xor_two_pow_of_lt {n u : Nat} (h : u < 2 ^ n) : u ^^^ 2 ^ n = u + 2 ^ n := by
  -- quotient and remainder by `2^n`: xor acts on each; the quotient is `0 ^^^ 1`, the remainder `u ^^^ 0`
  rw [← Nat.div_add_mod (u ^^^ 2 ^ n) (2 ^ n), Nat.xor_div_two_pow, Nat.xor_mod_two_pow,
    Nat.div_self (Nat.pow_pos (by decide)), Nat.mod_self, Nat.xor_zero, Nat.div_eq_of_lt h,
    Nat.mod_eq_of_lt h, Nat.zero_xor, Nat.mul_one, Nat.add_comm]

theorem xor_two_pow_of_ge {n u : Nat} (h : 2 ^ n ≤ u) (h' : u < 2 ^ (n + 1)) :
    u ^^^ 2 ^ n = u - 2 ^ n := by
  have e := xor_two_pow_of_lt (n := n) (u := u - 2 ^ n) (by rw [Nat.pow_succ] at h'; omega)
  rw [Nat.sub_add_cancel h] at e
  conv => lhs; rw [← e, Nat.xor_assoc, Nat.xor_self, Nat.xor_zero]

theorem msb_iff (a : W) : a.msb = true ↔ 2^63 ≤ a.toNat := by
  rw [BitVec.msb_eq_decide]; simp

theorem f2i_msb (a : W) : (f2i a).msb = a.msb := by
  unfold f2i
  split
  · rw [BitVec.msb_xor, show signMask.msb = false from rfl, Bool.xor_false]
  · rfl

theorem f2i_toInt (a : W) :
    (f2i a).toInt = if a.msb then (2:Int)^63 - 1 - (a.toNat : Int) else (a.toNat : Int) := by
  unfold f2i
  cases h : a.msb
  · exact BitVec.toInt_eq_toNat_of_msb h
  · have h63 := (msb_iff a).1 h
    have hlt := a.isLt
    -- `signMask` is the complement of the sign bit, which `a` has set
    have e : a ^^^ signMask = ~~~(a ^^^ BitVec.intMin 64) := by rw [BitVec.not_xor_right]; rfl
    rw [if_pos rfl, if_pos rfl, BitVec.toInt_eq_toNat_cond, e, BitVec.toNat_not, BitVec.toNat_xor,
      BitVec.toNat_intMin_of_pos (by decide), xor_two_pow_of_ge h63 hlt]
    omega

/-! ### base-128 digit strings: bytewise order is numeric order -/

theorem lt_iff_divmod (m a b : Nat) :
    a < b ↔ a / m < b / m ∨ (a / m = b / m ∧ a % m < b % m) := by
  rcases Nat.lt_trichotomy (a / m) (b / m) with h | h | h
  · simp [h, Nat.lt_of_div_lt_div h]
  · conv => lhs; rw [← Nat.div_add_mod a m, ← Nat.div_add_mod b m]
    simp [h]
  · simp [Nat.lt_asymm h, Nat.ne_of_gt h, Nat.lt_asymm (Nat.lt_of_div_lt_div h)]

theorem bytesLt_cons (a b : Nat) (as bs : List Nat) :
    bytesLt (a :: as) (b :: bs) = true ↔ a < b ∨ (a = b ∧ bytesLt as bs = true) := by
  rcases Nat.lt_trichotomy a b with h | rfl | h
  · simp [bytesLt, h]
  · simp [bytesLt]
  · simp [bytesLt, h, Nat.lt_asymm h, Nat.ne_of_gt h]

theorem bytesLt_irrefl (l : List Nat) : bytesLt l l = false := by
  induction l with
  | nil => rfl
  | cons x xs ih => simp [bytesLt, ih]

theorem digits_length (k u : Nat) : (digits k u).length = k := by
  induction k generalizing u with
  | zero => rfl
  | succ k ih => simp [digits, ih]

theorem digits_lt (k u : Nat) : ∀ d ∈ digits k u, d < 128 := by
  induction k generalizing u with
  | zero => simp [digits]
  | succ k ih =>
    rw [digits, List.forall_mem_cons]
    exact ⟨Nat.mod_lt _ (by decide), ih _⟩

theorem pow128_pos (k : Nat) : 0 < 128^k := Nat.pow_pos (by decide)

theorem div_pow_lt {k u : Nat} (h : u < 128^(k+1)) : u / 128^k < 128 :=
  Nat.div_lt_of_lt_mul h

theorem digits_lt_iff {k u w : Nat} (hu : u < 128^k) (hw : w < 128^k) :
    bytesLt (digits k u) (digits k w) = true ↔ u < w := by
  induction k generalizing u w with
  | zero => simp [digits, bytesLt]; omega
  | succ k ih =>
    rw [digits, digits, bytesLt_cons, Nat.mod_eq_of_lt (div_pow_lt hu),
      Nat.mod_eq_of_lt (div_pow_lt hw),
      ih (Nat.mod_lt _ (pow128_pos k)) (Nat.mod_lt _ (pow128_pos k)), ← lt_iff_divmod]

/-- an order embedding is injective -/
theorem digits_inj {k u w : Nat} (hu : u < 128^k) (hw : w < 128^k) (h : digits k u = digits k w) : u = w := by
  have a := digits_lt_iff hu hw
  have b := digits_lt_iff hw hu
  rw [h, bytesLt_irrefl] at a b
  simp at a b
  omega

theorem or_digit (a : Nat) {d : Nat} (hd : d < 128) : (a * 128) ||| d = a * 128 + d := by
  rw [Nat.mul_comm]
  exact (Nat.two_pow_add_eq_or_of_lt (i := 7) hd a).symm

/-- the loop of `PrefixCoded.Int64()` reads the digits back, as long as nothing is shifted out -/
theorem decode_digits {k : Nat} (a : Nat) {u : Nat} (hu : u < 128^k) (hb : a * 128^k + u < 2^64) :
    (digits k u).foldl (fun a b => ((a * 128) % 2^64) ||| b) a = a * 128^k + u := by
  induction k generalizing a u with
  | zero => simp [digits]; omega
  | succ k ih =>
    have hq := div_pow_lt hu
    have hp := pow128_pos k
    rw [Nat.pow_succ 128 k] at hb ⊢
    have ha : a * 128 < 2^64 :=
      calc a * 128 ≤ a * (128^k * 128) := Nat.mul_le_mul_left a (Nat.le_mul_of_pos_left 128 hp)
        _ ≤ a * (128^k * 128) + u := Nat.le_add_right ..
        _ < 2^64 := hb
    have e : (a * 128 + u / 128^k) * 128^k + u % 128^k = a * (128^k * 128) + u := by
      rw [Nat.add_mul, Nat.add_assoc, Nat.mul_comm (u / 128^k), Nat.div_add_mod, Nat.mul_assoc,
        Nat.mul_comm 128]
    rw [digits, List.foldl_cons, Nat.mod_eq_of_lt ha, Nat.mod_eq_of_lt hq, or_digit _ hq,
      ih _ (Nat.mod_lt _ hp) (e ▸ hb), e]

/-! ### prefix coded terms -/

theorem inI64_iff (v : Int) : inI64 v = true ↔ -(2:Int)^63 ≤ v ∧ v < (2:Int)^63 := by
  simp [inI64]

theorem toInt_inI64 (a : W) : inI64 a.toInt = true :=
  (inI64_iff _).2 ⟨BitVec.le_toInt a, BitVec.toInt_lt⟩

/-- the `nChars s` seven-bit digits of a term hold every value shifted by `s` -/
theorem nChars_fits (s : Nat) : 2^(64 - s) ≤ 128^(nChars s) := by
  rw [show 128 = 2^7 from rfl, ← Nat.pow_mul]
  exact Nat.pow_le_pow_right (by decide) (by rw [nChars]; omega)

theorem two_pow_split {m n k : Nat} (h : m = n + k) : (2:Int)^m = 2^n * 2^k := by
  rw [h, Int.pow_add]

/-- The term of block `x` at shift `s`, the block being the values `v` with `v / 2^s = x`: the shift
byte, then `x` moved from `[-2^(63-s), 2^(63-s))` to `[0, 2^(64-s))` in base 128.
`termOf x lvl` unfolds to `blockTerm (4*lvl) x`. -/
def blockTerm (s : Nat) (x : Int) : List Nat :=
  (shiftStart + s) :: digits (nChars s) (x + (2:Int)^(63 - s)).toNat

theorem div_block {v : Int} {s : Nat} (hs : s ≤ 63) (hv : inI64 v = true) :
    -(2:Int)^(63 - s) ≤ v / 2^s ∧ v / 2^s < (2:Int)^(63 - s) := by
  have hp : (0:Int) < 2^s := Int.pow_pos (by decide)
  rw [Int.le_ediv_iff_mul_le hp, Int.ediv_lt_iff_lt_mul hp, Int.neg_mul,
    ← two_pow_split (show 63 = 63 - s + s by omega)]
  exact (inI64_iff v).1 hv

theorem sortable_shift {v : Int} {s : Nat} (hs : s ≤ 63) (hv : inI64 v = true) :
    ((sortable v / 2^s : Nat) : Int) = v / 2^s + 2^(63 - s) := by
  have hnn : 0 ≤ v + (2:Int)^63 := by have := (inI64_iff v).1 hv; omega
  rw [sortable, Int.natCast_ediv, Int.toNat_of_nonneg hnn, Int.natCast_pow, Int.cast_ofNat_Int,
    two_pow_split (show 63 = 63 - s + s by omega),
    Int.add_mul_ediv_right _ _ (Int.ne_of_gt (Int.pow_pos (by decide)))]

theorem prefixCode_eq_blockTerm {v : Int} {s : Nat} (hs : s ≤ 63) (hv : inI64 v = true) :
    prefixCode v s = some (blockTerm s (v / 2^s)) := by
  rw [prefixCode, if_neg (by omega), blockTerm, ← sortable_shift hs hv, Int.toNat_natCast]

theorem termOf_eq_prefixCode {v : Int} {lvl : Nat} (hl : lvl ≤ 15) (hv : inI64 v = true) :
    prefixCode v (4*lvl) = some (termOf (v / 2^(4*lvl)) lvl) :=
  prefixCode_eq_blockTerm (by omega) hv

/-- a block number, offset to be non-negative, fits the digits of its term -/
theorem offset_lt {s : Nat} (hs : s ≤ 63) {x : Int} (hx : x < (2:Int)^(63 - s)) :
    (x + (2:Int)^(63 - s)).toNat < 128^(nChars s) := by
  refine Nat.lt_of_lt_of_le ?_ (nChars_fits s)
  rw [Int.toNat_lt' (Nat.pow_pos (by decide)), Int.natCast_pow, Int.cast_ofNat_Int,
    two_pow_split (show 64 - s = 63 - s + 1 by omega)]
  omega

theorem blockTerm_lt_iff {s : Nat} (hs : s ≤ 63) {x y : Int}
    (hx : -(2:Int)^(63 - s) ≤ x ∧ x < (2:Int)^(63 - s))
    (hy : -(2:Int)^(63 - s) ≤ y ∧ y < (2:Int)^(63 - s)) :
    bytesLt (blockTerm s x) (blockTerm s y) = true ↔ x < y := by
  rw [blockTerm, blockTerm, bytesLt_cons,
    digits_lt_iff (offset_lt hs hx.2) (offset_lt hs hy.2), Int.lt_toNat,
    Int.toNat_of_nonneg (by omega), Int.add_lt_add_iff_right]
  simp

theorem blockTerm_inj {s : Nat} (hs : s ≤ 63) {x y : Int}
    (hx : -(2:Int)^(63 - s) ≤ x ∧ x < (2:Int)^(63 - s))
    (hy : -(2:Int)^(63 - s) ≤ y ∧ y < (2:Int)^(63 - s))
    (h : blockTerm s x = blockTerm s y) : x = y := by
  have := digits_inj (offset_lt hs hx.2) (offset_lt hs hy.2) (List.cons.inj h).2
  omega

/-- C07 order clause at every shift: bytewise order of prefix coded terms is the numeric order of
    the values truncated to that shift. -/
theorem prefixCode_order (v w : Int) (s : Nat) (hs : s ≤ 63)
    (hv : inI64 v = true) (hw : inI64 w = true) :
    ∃ tv tw, prefixCode v s = some tv ∧ prefixCode w s = some tw ∧
      (bytesLt tv tw = true ↔ v / 2^s < w / 2^s) :=
  ⟨_, _, prefixCode_eq_blockTerm hs hv, prefixCode_eq_blockTerm hs hw,
    blockTerm_lt_iff hs (div_block hs hv) (div_block hs hw)⟩

theorem mem_enumerate {r : Rng} {t : List Nat} :
    t ∈ r.enumerate ↔ ∃ x, r.lo ≤ x ∧ x ≤ r.hi ∧ termOf x r.lvl = t := by
  simp only [Rng.enumerate, List.mem_map, List.mem_range]
  constructor
  · rintro ⟨i, hi, rfl⟩
    exact ⟨_, by omega, by omega, rfl⟩
  · rintro ⟨x, h1, h2, rfl⟩
    exact ⟨(x - r.lo).toNat, by omega,
      by rw [Int.toNat_of_nonneg (by omega), Int.add_comm, Int.sub_add_cancel]⟩

/-! ### decoding a term -/

theorem shiftOf_cons (s : Nat) (hs : s < 63) (ds : List Nat) :
    shiftOf ((shiftStart + s) :: ds) = some s := by
  have : (shiftStart + s + 256 - shiftStart) % 256 = s := by
    rw [Nat.add_right_comm, Nat.add_assoc, Nat.add_sub_cancel_left, Nat.add_mod_left,
      Nat.mod_eq_of_lt (by omega)]
  simp only [shiftOf, this, hs, if_true]

theorem toI64_of_lt {u : Nat} (h : u < 2^63) : toI64 u = u := by
  rw [toI64, Nat.mod_eq_of_lt (Nat.lt_trans h (by decide)), if_neg (Nat.not_le.2 h)]

theorem toI64_of_ge {u : Nat} (h : 2^63 ≤ u) (h' : u < 2^64) : toI64 u = u - (2:Int)^64 := by
  rw [toI64, Nat.mod_eq_of_lt h', if_pos h]

/-- flipping the top bit turns offset binary into two's complement -/
theorem toI64_xor_top {u : Nat} (h : u < 2^64) : toI64 (u ^^^ 2^63) = (u : Int) - 2^63 := by
  rcases Nat.lt_or_ge u (2^63) with hu | hu
  · rw [xor_two_pow_of_lt hu, toI64_of_ge (Nat.le_add_left ..) (by omega)]
    omega
  · rw [xor_two_pow_of_ge hu h, toI64_of_lt (by omega)]
    omega

theorem decodeInt64_blockTerm_zero (v : Int) (hv : inI64 v = true) :
    decodeInt64 (blockTerm 0 v) = some v := by
  obtain ⟨h1, h2⟩ := (inI64_iff v).1 hv
  have hu : (v + (2:Int)^63).toNat < 2^64 := by omega
  rw [decodeInt64, blockTerm, shiftOf_cons 0 (by decide)]
  simp only [List.drop_one, List.tail_cons, Nat.pow_zero, Nat.mul_one]
  rw [decode_digits 0 (offset_lt (s := 0) (by decide) h2) (by omega), Nat.zero_mul,
    Nat.zero_add, Nat.mod_eq_of_lt hu, toI64_xor_top hu, Int.toNat_of_nonneg (by omega),
    Int.add_sub_cancel]

/-! ### range splitting -/

theorem div_succ_level (v : Int) (lvl : Nat) : v / 2^(4*(lvl+1)) = v / 2^(4*lvl) / 16 := by
  rw [two_pow_split (show 4*(lvl+1) = 4*lvl + 4 by omega),
    ← Int.ediv_ediv_of_nonneg (Int.le_of_lt (Int.pow_pos (by decide)))]
  rfl

theorem covers_mk (a b : Int) (lvl : Nat) (v : Int) :
    (Rng.mk a b lvl).covers v ↔ a ≤ v / 2^(4*lvl) ∧ v / 2^(4*lvl) ≤ b := Iff.rfl

/-- One round of `splitAux`: `(a + 15) / 16` and `(b - 15) / 16` are the first and last block of the
next level that lie wholly inside `[a, b]`; what they leave over at either end stays at this level. -/
theorem mem_splitAux_succ {fuel lvl : Nat} {a b : Int} {r : Rng} :
    r ∈ splitAux (fuel+1) lvl a b ↔
      if (b - 15) / 16 < (a + 15) / 16 then r = ⟨a, b, lvl⟩
      else (a % 16 ≠ 0 ∧ r = ⟨a, a / 16 * 16 + 15, lvl⟩) ∨ (b % 16 ≠ 15 ∧ r = ⟨b / 16 * 16, b, lvl⟩) ∨
        r ∈ splitAux fuel (lvl+1) ((a + 15) / 16) ((b - 15) / 16) := by
  have ea : (if a % 16 ≠ 0 then a / 16 + 1 else a / 16) = (a + 15) / 16 := by omega
  have eb : (if b % 16 ≠ 15 then b / 16 - 1 else b / 16) = (b - 15) / 16 := by omega
  simp only [splitAux, ea, eb, gt_iff_lt]
  rw [apply_ite (r ∈ ·)]
  simp only [List.mem_append, List.mem_ite_nil_right, List.mem_singleton, or_assoc]

theorem splitAux_cover (fuel lvl : Nat) (a b v : Int) :
    (∃ r ∈ splitAux fuel lvl a b, r.covers v) ↔ (a ≤ v / 2^(4*lvl) ∧ v / 2^(4*lvl) ≤ b) := by
  induction fuel generalizing lvl a b with
  | zero => simp [splitAux, Rng.covers]
  | succ fuel ih =>
    simp only [mem_splitAux_succ]
    split
    · simp [Rng.covers]
    · simp only [or_and_right, exists_or, and_assoc, exists_and_left, exists_eq_left, ih,
        div_succ_level, covers_mk]
      -- the two leftovers and the blocks `16 * a' ..= 16 * b' + 15` make up `[a, b]`
      omega

theorem splitRange_cover (min max v : Int) :
    ((∃ r ∈ splitRange min max, r.covers v) ↔ (min ≤ v ∧ v ≤ max)) := by
  unfold splitRange
  split
  · simp; omega
  · simpa using splitAux_cover 15 0 min max v

/-! ### well-formed ranges

At level `lvl` a range counts in blocks of `2^(4*lvl)` values, so its ends lie in `[-2^(63-4*lvl), 2^(63-4*lvl))`:
the int64 values scaled to that level (`Rng.wf`).  Non-emptiness and the level bound take an induction
of their own; the two scaled bounds follow from `splitRange_cover` and `div_block` (`split_wf` in Props/C07). -/

def Rng.wf (r : Rng) : Prop :=
  r.lvl ≤ 15 ∧ -(2:Int)^(63 - 4*r.lvl) ≤ r.lo ∧ r.lo ≤ r.hi ∧ r.hi < (2:Int)^(63 - 4*r.lvl)

theorem splitAux_nonempty (fuel lvl : Nat) (a b : Int) (hab : a ≤ b) :
    ∀ r ∈ splitAux fuel lvl a b, r.lo ≤ r.hi ∧ r.lvl ≤ lvl + fuel := by
  induction fuel generalizing lvl a b with
  | zero => simpa [splitAux] using hab
  | succ fuel ih =>
    intro r hr
    rw [mem_splitAux_succ] at hr
    split at hr
    · subst hr; exact ⟨hab, Nat.le_add_right ..⟩
    · rename_i h
      rcases hr with ⟨_, rfl⟩ | ⟨_, rfl⟩ | hr
      · exact ⟨show a ≤ a / 16 * 16 + 15 by omega, Nat.le_add_right ..⟩
      · exact ⟨Int.ediv_mul_le b (by decide), Nat.le_add_right ..⟩
      · have := ih (lvl+1) _ _ (Int.not_lt.1 h) r hr
        omega

theorem splitRange_nonempty {min max : Int} {r : Rng} (hr : r ∈ splitRange min max) :
    r.lo ≤ r.hi ∧ r.lvl ≤ 15 := by
  unfold splitRange at hr
  split at hr
  · simp at hr
  · simpa using splitAux_nonempty 15 0 min max (by omega) r hr

end Bleve.Numeric
