/-
Ascending lists of ids, `l.Pairwise (· < ·)`: what the searcher contract is stated over.  Skipping to a
target (`dropWhile (· < t)`) is filtering by `t ≤ ·` on such a list; the facts about skipping follow
from that.  (It holds of any sorted list and any test that stays false once it is false,
`dropWhile_eq_filter_not`: the KV cursor's `seekFrom` is the other instance.)  Stepping past the head is
skipping to the id after it (`dropWhile_succ`).  `Query.Asc` and `BoolSearcher.Asc` both unfold to the
hypothesis used here; where one of them is open, `Asc.ext`, `Asc.mem_dropWhile h` … still name the
lemmas of this namespace, not projections of the predicate.
-/
namespace Bleve.Asc

/-- on a list sorted by `R`, skipping while `p` holds is filtering, if `p` once false stays false along `R` -/
theorem dropWhile_eq_filter_not {α : Type} {R : α → α → Prop} {p : α → Bool} {l : List α} (h : l.Pairwise R)
    (hp : ∀ a b, R a b → p a = false → p b = false) : l.dropWhile p = l.filter (!p ·) := by
  induction l with
  | nil => rfl
  | cons x xs ih =>
    have ⟨hx, hxs⟩ := List.pairwise_cons.1 h
    cases hpx : p x with
    | true => rw [List.dropWhile_cons_of_pos hpx, List.filter_cons_of_neg (by simp [hpx]), ih hxs]
    | false =>
      rw [List.dropWhile_cons_of_neg (by simp [hpx]), List.filter_cons_of_pos (by simp [hpx]),
        List.filter_eq_self.2 fun y hy => by simp [hp x y (hx y hy) hpx]]

theorem dropWhile_eq_filter {l : List Nat} (h : l.Pairwise (· < ·)) (t : Nat) :
    l.dropWhile (· < t) = l.filter (t ≤ ·) := by
  -- `a < t` false and `a < b`: then `b < t` is false too
  rw [dropWhile_eq_filter_not h fun a b (hab : a < b) ha =>
    decide_eq_false fun hb => of_decide_eq_false ha (Nat.lt_trans hab hb)]
  exact List.filter_congr fun x _ => by simp only [← Nat.not_lt, decide_not]

theorem dropWhile_asc {l : List Nat} (h : l.Pairwise (· < ·)) (t : Nat) : (l.dropWhile (· < t)).Pairwise (· < ·) :=
  h.sublist (List.dropWhile_sublist _)

theorem mem_dropWhile {l : List Nat} (h : l.Pairwise (· < ·)) {t d : Nat} :
    d ∈ l.dropWhile (· < t) ↔ d ∈ l ∧ t ≤ d := by
  rw [dropWhile_eq_filter h, List.mem_filter, decide_eq_true_eq]

theorem contains_dropWhile {l : List Nat} (h : l.Pairwise (· < ·)) {t d : Nat} (htd : t ≤ d) :
    (l.dropWhile (· < t)).contains d = l.contains d := by
  simp [mem_dropWhile h, htd]

theorem filter_dropWhile {l : List Nat} (h : l.Pairwise (· < ·)) (p : Nat → Bool) (t : Nat) :
    (l.dropWhile (· < t)).filter p = (l.filter p).dropWhile (· < t) := by
  rw [dropWhile_eq_filter h, dropWhile_eq_filter (h.filter p), List.filter_filter, List.filter_filter]
  simp only [Bool.and_comm]

theorem dropWhile_eq_self {l : List Nat} {t : Nat} (h : ∀ x ∈ l, t ≤ x) : l.dropWhile (· < t) = l := by
  cases l with
  | nil => rfl
  | cons x xs => exact List.dropWhile_cons_of_neg (by simpa using h x List.mem_cons_self)

theorem cons_head?_tail {l : List Nat} {m : Nat} (hm : l.head? = some m) : m :: l.tail = l := by
  obtain ⟨xs, rfl⟩ := List.head?_eq_some_iff.1 hm
  rfl

theorem dropWhile_head {l : List Nat} {m : Nat} (hm : l.head? = some m) : l.dropWhile (· < m) = l := by
  obtain ⟨xs, rfl⟩ := List.head?_eq_some_iff.1 hm
  exact List.dropWhile_cons_of_neg (by simp)

theorem head?_le {l : List Nat} (h : l.Pairwise (· < ·)) {m d : Nat} (hm : l.head? = some m) (hd : d ∈ l) :
    m ≤ d := by
  obtain ⟨xs, rfl⟩ := List.head?_eq_some_iff.1 hm
  rcases List.mem_cons.1 hd with rfl | hd
  · exact Nat.le_refl _
  · exact Nat.le_of_lt ((List.pairwise_cons.1 h).1 d hd)

theorem head?_eq_some_iff {l : List Nat} (h : l.Pairwise (· < ·)) {m : Nat} (hle : ∀ d ∈ l, m ≤ d) :
    l.head? = some m ↔ m ∈ l := by
  refine ⟨List.mem_of_mem_head?, fun hm => ?_⟩
  cases l with
  | nil => cases hm
  | cons x xs =>
    rcases List.mem_cons.1 hm with rfl | hm
    · rfl
    · have := hle x List.mem_cons_self
      have := (List.pairwise_cons.1 h).1 m hm
      omega

theorem dropWhile_succ {l : List Nat} (h : l.Pairwise (· < ·)) {m : Nat} (hm : l.head? = some m) :
    l.dropWhile (· < m + 1) = l.tail := by
  obtain ⟨xs, rfl⟩ := List.head?_eq_some_iff.1 hm
  rw [List.dropWhile_cons_of_pos (by simp)]
  exact dropWhile_eq_self fun x hx => (List.pairwise_cons.1 h).1 x hx

/-- skipping past a lower bound `m` removes `m`, if it is there, and nothing else -/
theorem dropWhile_succ_of_mem {l : List Nat} (h : l.Pairwise (· < ·)) {m : Nat} (hle : ∀ d ∈ l, m ≤ d)
    (hm : m ∈ l) :
    m :: l.dropWhile (· < m + 1) = l := by
  have hhead := (head?_eq_some_iff h hle).2 hm
  rw [dropWhile_succ h hhead]
  exact cons_head?_tail hhead

theorem dropWhile_succ_of_not_mem {l : List Nat} {m : Nat} (hle : ∀ d ∈ l, m ≤ d) (hm : m ∉ l) :
    l.dropWhile (· < m + 1) = l :=
  dropWhile_eq_self fun d hd => Nat.lt_of_le_of_ne (hle d hd) fun hdm => hm (hdm ▸ hd)

theorem ext {l₁ l₂ : List Nat} (h₁ : l₁.Pairwise (· < ·)) (h₂ : l₂.Pairwise (· < ·))
    (h : ∀ d, d ∈ l₁ ↔ d ∈ l₂) : l₁ = l₂ :=
  List.Perm.eq_of_pairwise (fun _ _ _ _ hab hba => absurd hab (Nat.lt_asymm hba)) h₁ h₂
    ((List.perm_ext_iff_of_nodup (h₁.imp Nat.ne_of_lt) (h₂.imp Nat.ne_of_lt)).2 h)

end Bleve.Asc
