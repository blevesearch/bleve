import BleveModel.Lemmas.TopN
/-!
Top-k of a union from the top-k of the parts (the heart of C09), in the namespace of Lemmas/TopN.
The first k of `a ++ b` depend on `a` only through its first k, for any `lt` (`topk_congr_left`); for an
order, `b` may be replaced by its own first k as well (`topk_append_right`, by commuting the parts).
`topk_of_union` goes over the shards from the last: congruence for those before, replacement for the
last; `page_of_union` cuts the page out.
-/
namespace Bleve.TopN
variable {α κ : Type}

def KeysNodup (key : α → κ) (l : List α) : Prop := (l.map key).Nodup

theorem KeysNodup.perm {key : α → κ} {l₁ l₂ : List α} (h : KeysNodup key l₁) (hp : l₁.Perm l₂) :
    KeysNodup key l₂ := (hp.map key).nodup_iff.1 h

theorem KeysNodup.sublist {key : α → κ} {l₁ l₂ : List α} (h : KeysNodup key l₂) (hs : l₁.Sublist l₂) :
    KeysNodup key l₁ := List.Nodup.sublist (hs.map key) h

theorem KeysNodup.left {key : α → κ} {a b : List α} (h : KeysNodup key (a ++ b)) : KeysNodup key a :=
  h.sublist (List.sublist_append_left a b)

theorem KeysNodup.right {key : α → κ} {a b : List α} (h : KeysNodup key (a ++ b)) : KeysNodup key b :=
  h.sublist (List.sublist_append_right a b)

variable {lt : α → α → Bool} {key : α → κ}

theorem KeysNodup.topk {l : List α} (h : KeysNodup key l) (k : Nat) :
    KeysNodup key ((isort lt l).take k) :=
  (h.perm (isort_perm lt l).symm).sublist (List.take_sublist _ _)

theorem isort_congr (h : Ord lt key) {l₁ l₂ : List α} (hk : KeysNodup key l₁) (hp : l₁.Perm l₂) :
    isort lt l₁ = isort lt l₂ :=
  isort_eq_of_sorted_perm h hk ((isort_perm lt l₂).trans hp.symm) (isort_sorted h _ (hk.perm hp))

/-- the first `k` of `a ++ b` depend on `a` through its first `k` only (any `lt`) -/
theorem topk_congr_left (k : Nat) {a a' : List α} (b : List α)
    (ha : (isort lt a).take k = (isort lt a').take k) :
    (isort lt (a ++ b)).take k = (isort lt (a' ++ b)).take k := by
  induction b using snoc_induction with
  | nil => rwa [List.append_nil, List.append_nil]
  | snoc p d ih =>
    rw [← List.append_assoc, ← List.append_assoc, isort_snoc, isort_snoc, take_ins, ih, ← take_ins]

theorem topk_append_left (h : Ord lt key) (k : Nat) {a : List α} (b : List α) (hk : KeysNodup key a) :
    (isort lt ((isort lt a).take k ++ b)).take k = (isort lt (a ++ b)).take k :=
  topk_congr_left k b <| by
    rw [isort_eq_of_sorted_perm h (hk.topk k) (.refl _) (isort_sorted h a hk).take, List.take_take,
      Nat.min_self]

theorem topk_append_right (h : Ord lt key) (k : Nat) {a b : List α} (hk : KeysNodup key (a ++ b)) :
    (isort lt (a ++ (isort lt b).take k)).take k = (isort lt (a ++ b)).take k := by
  have hk' : KeysNodup key (a ++ (isort lt b).take k) :=
    (hk.perm ((isort_perm lt b).symm.append_left a)).sublist ((List.take_sublist _ _).append_left a)
  rw [isort_congr h hk' List.perm_append_comm, topk_append_left h k a hk.right,
    isort_congr h hk List.perm_append_comm]

/-- per-shard top `k`, concatenated: what the alias receives from its members -/
def shardTops (lt : α → α → Bool) (k : Nat) (shards : List (List α)) : List α :=
  (shards.map (fun l => (isort lt l).take k)).flatten

theorem shardTops_sub (lt : α → α → Bool) (k : Nat) (shards : List (List α)) :
    ∀ x ∈ shardTops lt k shards, x ∈ shards.flatten := by
  simp only [shardTops, List.mem_flatten, List.mem_map]
  rintro x ⟨_, ⟨l, hl, rfl⟩, hx⟩
  exact ⟨l, hl, (mem_isort lt x l).1 (List.mem_of_mem_take hx)⟩

/-- keys stay distinct in what the alias receives: it is a sublist of a permutation of all documents -/
theorem shardTops_nodup (k : Nat) (shards : List (List α)) (hk : KeysNodup key shards.flatten) :
    KeysNodup key (shardTops lt k shards) := by
  have hp : ((shards.map (isort lt)).flatten).Perm shards.flatten := by
    induction shards with
    | nil => exact .refl _
    | cons l ls ih => exact (isort_perm lt l).append (ih hk.right)
  refine (hk.perm hp.symm).sublist ?_
  clear hk hp
  induction shards with
  | nil => exact .slnil
  | cons l ls ih => exact (List.take_sublist _ _).append ih

/-- **Top-k of a union.** For a strict total order, the first `k` of all documents are the first
    `k` of the concatenated per-shard first-`k` lists — for any number of shards, any sizes
    (including empty shards), any `k`. -/
theorem topk_of_union {lt : α → α → Bool} {key : α → κ} (h : Ord lt key) (k : Nat)
    (shards : List (List α)) (hk : KeysNodup key shards.flatten) :
    (isort lt (shardTops lt k shards)).take k = (isort lt shards.flatten).take k := by
  induction shards using snoc_induction with
  | nil => rfl
  | snoc ss l ih =>
    -- the shards before the last by induction, then the last one by its own first `k`
    rw [List.flatten_append, List.flatten_singleton] at hk ⊢
    rw [shardTops, List.map_append, List.flatten_append, List.map_singleton, List.flatten_singleton]
    exact (topk_congr_left k _ (ih hk.left)).trans (topk_append_right h k hk)

/-- pages: skipping `from` and keeping `size` of the merged member pages (each `size+from` long)
    is the page of the whole -/
theorem page_of_union (h : Ord lt key) (size from_ : Nat)
    (shards : List (List α)) (hk : KeysNodup key shards.flatten) :
    page lt size from_ (shardTops lt (size + from_) shards) = page lt size from_ shards.flatten := by
  rw [page_eq_drop_take, page_eq_drop_take, topk_of_union h _ shards hk]

end Bleve.TopN
