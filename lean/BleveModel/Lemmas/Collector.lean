import BleveModel.Model.Collector
import BleveModel.Lemmas.TopN
/-!
Three-way comparisons that are total preorders (`IsCmp`: built from a linear order by `of_lt`, combined
lexicographically by `lex`, turned into a `TopN.Ord` by `ord_of_isCmp`), then the comparisons of
`search/sort.go` (`cmpInt`, `cmpBytes`, `lexCmp`, `cmp`) as instances.
-/
namespace Bleve.Collector
open Bleve.TopN

/-- a three-way comparison that is a total preorder -/
structure IsCmp {α : Type} (c : α → α → Int) : Prop where
  anti : ∀ x y, c y x = - c x y
  trans : ∀ x y z, c x y ≤ 0 → c y z ≤ 0 → c x z ≤ 0

section
variable {α β κ : Type} {c r : α → α → Int}

theorem IsCmp.refl (h : IsCmp c) (x : α) : c x x = 0 := by
  have := h.anti x x
  omega

/-- transitivity with the information a lexicographic combination needs: the outer pair ties only
    if both inner pairs do -/
theorem IsCmp.trans_or (h : IsCmp c) (x y z : α) (h1 : c x y ≤ 0) (h2 : c y z ≤ 0) :
    c x z < 0 ∨ c x y = 0 ∧ c y z = 0 ∧ c x z = 0 := by
  by_cases hlt : c x z < 0
  · exact .inl hlt
  -- `x` and `z` tie, so `z ≤ x`; round the cycle `x ≤ y ≤ z ≤ x` every step is then a tie
  have hxz := h.trans x y z h1 h2
  have hzx : c z x ≤ 0 := by rw [h.anti x z]; omega
  have hyx := h.trans y z x h2 hzx
  have hzy := h.trans z x y hzx h1
  rw [h.anti x y] at hyx
  rw [h.anti y z] at hzy
  exact .inr ⟨by omega, by omega, by omega⟩

theorem IsCmp.comap (h : IsCmp c) (f : β → α) : IsCmp (fun x y => c (f x) (f y)) :=
  ⟨fun _ _ => h.anti _ _, fun _ _ _ => h.trans _ _ _⟩

theorem IsCmp.flip (h : IsCmp c) : IsCmp (fun x y => c y x) :=
  ⟨fun x y => h.anti y x, fun x y z h1 h2 => h.trans z y x h2 h1⟩

theorem IsCmp.neg (h : IsCmp c) : IsCmp (fun x y => - c x y) := by
  rw [show (fun x y => - c x y) = fun x y => c y x from
    funext fun x => funext fun y => (h.anti x y).symm]
  exact h.flip

theorem IsCmp.of_lt {lt : α → α → Prop} [DecidableRel lt] (asymm : ∀ x y, lt x y → ¬ lt y x)
    (le_trans : ∀ x y z, ¬ lt y x → ¬ lt z y → ¬ lt z x)
    (hc : ∀ x y, c x y = if lt x y then -1 else if lt y x then 1 else 0) : IsCmp c := by
  have nonpos : ∀ x y, c x y ≤ 0 ↔ ¬ lt y x := fun x y => by
    rw [hc]
    split
    · next h => simp [asymm x y h]
    · split <;> simp [*]
  refine ⟨fun x y => ?_, fun x y z => ?_⟩
  · rw [hc, hc]
    by_cases h1 : lt x y
    · simp [h1, asymm x y h1]
    · by_cases h2 : lt y x <;> simp [h1, h2]
  · rw [nonpos, nonpos, nonpos]
    exact le_trans x y z

theorem lex_nonpos (p q : Int) : (if p ≠ 0 then p else q) ≤ 0 ↔ p < 0 ∨ p = 0 ∧ q ≤ 0 := by
  by_cases h : p = 0
  · simp [h]
  · simp [h, Int.le_iff_lt_or_eq]

theorem IsCmp.lex (hc : IsCmp c) (hr : IsCmp r) :
    IsCmp fun x y => if c x y ≠ 0 then c x y else r x y := by
  refine ⟨fun x y => ?_, fun x y z => ?_⟩
  · show (if c y x ≠ 0 then c y x else r y x) = - if c x y ≠ 0 then c x y else r x y
    rw [hc.anti x y, hr.anti x y]
    by_cases h : c x y = 0 <;> simp [h]
  · simp only [lex_nonpos]
    intro h1 h2
    have hxy : c x y ≤ 0 := h1.elim Int.le_of_lt fun h => Int.le_of_eq h.1
    have hyz : c y z ≤ 0 := h2.elim Int.le_of_lt fun h => Int.le_of_eq h.1
    rcases hc.trans_or x y z hxy hyz with h | ⟨hxy, hyz, hxz⟩
    · exact .inl h
    · exact .inr ⟨hxz, hr.trans x y z (by simpa [hxy] using h1) (by simpa [hyz] using h2)⟩

theorem ord_of_isCmp {lt : α → α → Bool} {key : α → κ} (hc : IsCmp c) (hlt : ∀ a b, lt a b = decide (c a b < 0))
    (hz : ∀ a b, c a b = 0 → key a = key b) : Ord lt key := by
  refine ⟨fun a => ?_, fun a b d => ?_, fun a b hne => ?_⟩
  · rw [hlt, hc.refl]
    rfl
  · simp only [hlt, decide_eq_true_eq]
    exact fun h1 h2 => (hc.trans_or a b d (Int.le_of_lt h1) (Int.le_of_lt h2)).resolve_right
      fun h => Int.ne_of_lt h1 h.1
  · simp only [hlt, decide_eq_true_eq]
    have := hc.anti a b; have := mt (hz a b) hne
    omega

end

/-! ### the comparisons of the model -/

theorem cmpInt_lt_zero (a b : Int) : cmpInt a b < 0 ↔ a < b := by
  rcases Int.lt_trichotomy a b with h | h | h
  · simp [cmpInt, h]
  · simp [cmpInt, h]
  · simp [cmpInt, h, Int.lt_asymm h]

theorem cmpInt_eq_zero (a b : Int) : cmpInt a b = 0 ↔ a = b := by
  rcases Int.lt_trichotomy a b with h | h | h
  · simp [cmpInt, h, Int.ne_of_lt h]
  · simp [cmpInt, h]
  · simp [cmpInt, h, Int.lt_asymm h, Int.ne_of_gt h]

theorem cmpInt_isCmp : IsCmp cmpInt :=
  .of_lt (fun _ _ => Int.lt_asymm) (fun _ _ _ h1 h2 => by omega) fun _ _ => rfl

/-- `cmpBytes` is the three-way comparison of the lexicographic order of core's `List` -/
theorem cmpBytes_eq : ∀ x y : List Nat, cmpBytes x y = if x < y then -1 else if y < x then 1 else 0
  | [], [] => rfl
  | [], _ :: _ => by simp [cmpBytes]
  | _ :: _, [] => by simp [cmpBytes]
  | a :: as, b :: bs => by
    rw [cmpBytes, cmpBytes_eq as bs]
    simp only [List.cons_lt_cons_iff]
    rcases Nat.lt_trichotomy a b with h | h | h
    · simp [h]
    · simp [h]
    · simp [h, Nat.lt_asymm h, Nat.ne_of_gt h]

theorem cmpBytes_isCmp : IsCmp cmpBytes :=
  .of_lt (lt := (· < ·)) (fun _ _ => List.lt_asymm) (fun _ _ _ => List.le_trans) cmpBytes_eq

theorem cmpBytes_range : ∀ x y, -1 ≤ cmpBytes x y ∧ cmpBytes x y ≤ 1 := by
  intro x y
  rw [cmpBytes_eq]
  split
  · decide
  · split <;> decide

theorem cmpBytes_eq_zero {x y : List Nat} (h : cmpBytes x y = 0) : x = y := by
  rw [cmpBytes_eq] at h
  split at h
  · exact absurd h (by decide)
  · split at h
    · exact absurd h (by decide)
    · exact List.le_antisymm ‹¬ y < x› ‹¬ x < y›

theorem compAt_isCmp (s : SortSpec) (i : Nat) : IsCmp (compAt s i) := by
  have hs := cmpInt_isCmp.comap fun m : Match => m.score
  have hb := cmpBytes_isCmp.comap fun m : Match => m.keys.getD i []
  obtain ⟨kind, desc⟩ := s
  cases kind <;> cases desc
  · exact hs
  · exact hs.neg
  · exact hb
  · exact hb.neg
  · exact hb
  · exact hb.neg

theorem hitCmp_isCmp : IsCmp hitCmp := cmpInt_isCmp.comap fun m : Match => (m.hit : Int)

theorem compAt_hit_irrel (s : SortSpec) (i : Nat) (d h : Match) (n : Nat) :
    compAt s i d { h with hit := n } = compAt s i d h := rfl

/-! ### the lexicographic combination -/

section
variable {α : Type}

theorem lexCmp_isCmp {cs : List (α → α → Int)} {tie : α → α → Int}
    (hcs : ∀ c ∈ cs, IsCmp c) (ht : IsCmp tie) : IsCmp (lexCmp cs tie) := by
  induction cs with
  | nil => exact ht
  | cons c cs ih => exact (hcs c (.head _)).lex (ih fun c' hc' => hcs c' (.tail _ hc'))

theorem lexCmp_zero_tie (cs : List (α → α → Int)) (tie : α → α → Int) (a b : α)
    (h : lexCmp cs tie a b = 0) : tie a b = 0 := by
  induction cs with
  | nil => exact h
  | cons c cs ih =>
    rw [lexCmp] at h
    split at h
    · exact absurd h ‹_›
    · exact ih h

/-- `lexCmp` looks at its right argument only through the components and the tie-break -/
theorem lexCmp_congr_right {cs : List (α → α → Int)} {tie : α → α → Int} {a b b' : α}
    (hc : ∀ c ∈ cs, c a b' = c a b) (ht : tie a b' = tie a b) : lexCmp cs tie a b' = lexCmp cs tie a b := by
  induction cs with
  | nil => exact ht
  | cons c cs ih => rw [lexCmp, lexCmp, hc c (.head _), ih fun c' hc' => hc c' (.tail _ hc')]

/-- where the components alone decide, the tie-break is not consulted -/
theorem lexCmp_of_key_ne {cs : List (α → α → Int)} (tie : α → α → Int) {a b : α}
    (hk : lexCmp cs (fun _ _ => 0) a b ≠ 0) : lexCmp cs tie a b = lexCmp cs (fun _ _ => 0) a b := by
  induction cs with
  | nil => exact absurd rfl hk
  | cons c cs ih =>
    rw [lexCmp] at hk
    rw [lexCmp, lexCmp]
    split
    · rfl
    · next h0 => exact ih (by rwa [if_neg h0] at hk)

theorem lexCmp_congr_of_key_ne {cs : List (α → α → Int)} (tie : α → α → Int) {a b b' : α}
    (hc : ∀ c ∈ cs, c a b' = c a b) (hk : lexCmp cs (fun _ _ => 0) a b ≠ 0) :
    lexCmp cs tie a b' = lexCmp cs tie a b :=
  have e : lexCmp cs (fun _ _ => 0) a b' = lexCmp cs (fun _ _ => 0) a b := lexCmp_congr_right hc rfl
  (lexCmp_of_key_ne tie (e ▸ hk)).trans (e.trans (lexCmp_of_key_ne tie hk).symm)

end

theorem cmp_isCmp (so : List SortSpec) : IsCmp (cmp so) := by
  refine lexCmp_isCmp (fun c hc => ?_) hitCmp_isCmp
  obtain ⟨p, -, rfl⟩ := List.mem_map.1 hc
  exact compAt_isCmp p.1 p.2

/-- comparison on the sort keys alone (no tie-break) -/
def keyCmp (so : List SortSpec) (a b : Match) : Int := lexCmp (comps so) (fun _ _ => 0) a b

theorem cmp_hit_irrel (so : List SortSpec) (d h : Match) (n : Nat) (hk : keyCmp so d h ≠ 0) :
    cmp so d { h with hit := n } = cmp so d h := by
  refine lexCmp_congr_of_key_ne hitCmp (fun c hc => ?_) hk
  obtain ⟨p, -, rfl⟩ := List.mem_map.1 hc
  rfl

end Bleve.Collector
