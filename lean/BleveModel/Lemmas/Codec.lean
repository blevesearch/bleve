import BleveModel.Model.Codec
/-!
Round trip of the table-driven JSON codec.  The encoder writes row `j` under its key, or omits it when
it is empty (`lookup_encodeFrom`); the decoder finds a field through the one arm that targets it
(`filter_unique_target`, `decodeField_of_arm`); `codec_roundtrip` puts the two together field by field.
-/
namespace Bleve.Codec

theorem lookup_encodeFrom_not_mem (r : Rec) (off : Nat) {rows : List Row} {k : String}
    (h : k ∉ rows.map (·.key)) : lookup (encodeFrom r off rows) k = none := by
  induction rows generalizing off with
  | nil => rfl
  | cons row rest ih =>
    have ⟨hne, hrest⟩ := List.ne_and_not_mem_of_not_mem_cons h
    rw [encodeFrom]
    split
    · exact ih _ hrest
    · rw [lookup, if_neg (by simpa using Ne.symm hne)]
      exact ih _ hrest

theorem lookup_encodeFrom (r : Rec) (off : Nat) {rows : List Row} {j : Nat} {row : Row}
    (hn : (rows.map (·.key)).Nodup) (hj : rows[j]? = some row) :
    lookup (encodeFrom r off rows) row.key =
      if row.omitEmpty && r (off + j) == 0 then none else some (r (off + j)) := by
  induction rows generalizing off j with
  | nil => cases hj
  | cons x rest ih =>
    have ⟨hx, hn⟩ : x.key ∉ rest.map (·.key) ∧ (rest.map (·.key)).Nodup := List.nodup_cons.1 hn
    rw [encodeFrom]
    cases j with
    | zero =>
      cases Option.some.inj hj
      rw [Nat.add_zero off]
      split
      · exact lookup_encodeFrom_not_mem r _ hx
      · rw [lookup, if_pos (beq_self_eq_true _)]
    | succ j =>
      have hj : rest[j]? = some row := hj
      -- the key sits further down, so it is not the key of `x`
      have hne : ¬(x.key == row.key) = true := fun e =>
        hx (beq_iff_eq.1 e ▸ List.mem_map_of_mem (f := (·.key)) (List.mem_of_getElem? hj))
      rw [Nat.add_comm j 1, ← Nat.add_assoc, ← ih (off + 1) hn hj]
      split
      · rfl
      · rw [lookup, if_neg hne]

theorem filter_unique_target {arms : List (String × Nat)} {k : String} {i : Nat}
    (hn : (arms.map (·.2)).Nodup) (hm : (k, i) ∈ arms) :
    arms.filter (fun a => a.2 == i) = [(k, i)] := by
  obtain ⟨l₁, l₂, rfl⟩ := List.append_of_mem hm
  obtain ⟨-, h₂, h₁⟩ := List.pairwise_append.1 (List.pairwise_map.1 hn)
  rw [List.filter_append, List.filter_cons_of_pos (a := (k, i)) (beq_self_eq_true i),
    List.filter_eq_nil_iff.2 fun a ha e => h₁ a ha _ (.head _) (beq_iff_eq.1 e),
    List.filter_eq_nil_iff.2 fun a ha e => (List.pairwise_cons.1 h₂).1 a ha (beq_iff_eq.1 e).symm]
  rfl

theorem decodeField_of_arm {t : Table} {k : String} {i : Nat} (preset : Rec) (kvs : List (String × Nat))
    (hn : (t.arms.map (·.2)).Nodup) (hm : (k, i) ∈ t.arms) :
    decodeField t preset kvs i = (lookup kvs k).getD (preset i) := by
  rw [decodeField, filter_unique_target hn hm]
  cases h : lookup kvs k <;> simp [h]

/-- **Codec round trip.** For every table that passes `TableOK`, every record and every field:
    decoding the encoding gives the field back (presets are the empty value wherever the table says
    so). -/
theorem codec_roundtrip (t : Table) (hok : TableOK t = true) (preset r : Rec)
    (hp : ∀ i row, t.rows[i]? = some row → row.presetNonZero = false → preset i = 0)
    (i : Nat) (hi : i < t.rows.length) :
    decodeField t preset (encode t r) i = r i := by
  simp only [TableOK, Bool.and_eq_true, decide_eq_true_eq, List.all_eq_true, List.mem_range] at hok
  obtain ⟨⟨⟨hkeys, _⟩, htargets⟩, hall⟩ := hok
  have hrow := hall i hi
  have hr : t.rows[i]? = some t.rows[i] := List.getElem?_eq_getElem hi
  simp only [hr, Bool.and_eq_true, List.contains_iff_mem, Bool.not_eq_true',
    Bool.and_eq_false_iff] at hrow
  obtain ⟨harm, hpre⟩ := hrow
  have hl := lookup_encodeFrom r 0 hkeys hr
  rw [Nat.zero_add] at hl
  rw [decodeField_of_arm preset _ htargets harm, encode, hl]
  split
  · next homit =>
    -- an omitted field was empty, and `TableOK` makes the preset of an `omitempty` field empty
    simp only [Bool.and_eq_true, beq_iff_eq] at homit
    rw [homit.2]
    exact hp i _ hr (hpre.resolve_left (by simp [homit.1]))
  · rfl

end Bleve.Codec
