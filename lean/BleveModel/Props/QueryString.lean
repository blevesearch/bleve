import BleveModel.Model.QueryString
/-!
# C17, query-string syntax: theorems about the lexer and grammar model

The lexer is total and terminates by construction (`run` is structural over the input: every step
consumes one rune), its only error is an unterminated quote (`lex_error_iff_in_phrase`).  Any text
can be written as one term (`lex_escTerm`) or as one phrase (`lex_phrase`), and the documented
clause syntax parses back to exactly the clauses written (`parts_render`).  That the Go lexer and
the goyacc parser behave like this model is what `./check C17` compares (token streams through the
`verif` export `VerifLexQueryString`, parsed queries through `QueryStringQuery.Parse`).
-/
namespace Bleve.QueryString

/-! ### escaping: any text can be written as one term, any text as one phrase -/

def bs : R := ⟨92, false, false⟩
def quote : R := ⟨34, false, false⟩
def colon : R := ⟨58, false, false⟩
def plus : R := ⟨43, false, false⟩
def space : R := ⟨32, false, true⟩

/-- a term written with every reserved character escaped -/
def escTerm (rs : List R) : List R :=
  rs.flatMap (fun r => if reserved.contains r.cp then [bs, r] else [r])

/-- a phrase body written with `"` and `\` escaped -/
def escPhrase (rs : List R) : List R :=
  rs.flatMap (fun r => if r.cp == 34 || r.cp == 92 then [bs, r] else [r])

theorem reserved_92 : reserved.contains 92 = true := by decide
theorem reserved_34 : reserved.contains 34 = true := by decide
theorem reserved_32 : reserved.contains 32 = true := by decide

theorem beq_of_not_reserved {c d : Nat} (hc : reserved.contains c = false) (hd : reserved.contains d = true) :
    (c == d) = false :=
  beq_false_of_ne fun h => by rw [h, hd] at hc; cases hc

theorem run_silent {s s' : LS} {r : R} (h : step s r = (s', none)) (rest : List R) :
    run s (r :: rest) = run s' rest := by
  simp [run, h, optL]

theorem run_emit {s s' : LS} {r : R} {t : Tok} (h : step s r = (s', some t)) (rest : List R) :
    run s (r :: rest) = (t :: (run s' rest).1, (run s' rest).2) := by
  simp [run, h, optL]

theorem run_op (buf : Text) (e d : Bool) (l : List R) :
    run ⟨.op, buf, e, d⟩ l = (opTok buf :: (run fresh l).1, (run fresh l).2) := by
  cases l <;> rfl

theorem accum_escaped {m : Mode} {buf : Text} {d : Bool} {c : Nat} (h : reserved.contains c = true) :
    accum ⟨m, buf, true, d⟩ c = ⟨m, buf ++ [c], false, d⟩ := by
  simp only [accum, unesc, h, Bool.not_true, Bool.false_and, Bool.false_eq_true, if_false, if_true]

theorem accum_plain {m : Mode} {buf : Text} {d : Bool} {c : Nat} (h : c ≠ 92) :
    accum ⟨m, buf, false, d⟩ c = ⟨m, buf ++ [c], false, d⟩ := by
  simp [accum, h]

/-- a rune as `escTerm` and `escPhrase` write it: behind a backslash if it is in `E` -/
theorem run_written {E : Nat → Bool} {s s₁ s' : LS} {r : R}
    (hesc : E r.cp = true → step s bs = (s₁, none) ∧ step s₁ r = (s', none))
    (hplain : E r.cp = false → step s r = (s', none)) (rest : List R) :
    run s ((if E r.cp then [bs, r] else [r]) ++ rest) = run s' rest := by
  cases h : E r.cp
  · exact run_silent (hplain h) rest
  · exact (run_silent (hesc h).1 _).trans (run_silent (hesc h).2 rest)

/-- Escaping, for both modes that collect a text.  `E` holds the characters written with a backslash
in front: the backslash, whatever ends the token in mode `m` when unescaped (`hplain`: every other
rune goes to `accum`), and only reserved characters, which `unesc` gives back unchanged.  Then the
written text is added to the buffer as it is, and no token is emitted. -/
theorem run_esc (m : Mode) (E : Nat → Bool)
    (hesc : ∀ buf (r : R), step ⟨m, buf, true, false⟩ r = (accum ⟨m, buf, true, false⟩ r.cp, none))
    (hbs : ∀ buf, step ⟨m, buf, false, false⟩ bs = (⟨m, buf, true, false⟩, none))
    (hplain : ∀ buf (r : R), E r.cp = false → step ⟨m, buf, false, false⟩ r = (accum ⟨m, buf, false, false⟩ r.cp, none))
    (h92 : E 92 = true) (hE : ∀ c, E c = true → reserved.contains c = true)
    (rs : List R) (buf : Text) (rest : List R) :
    run ⟨m, buf, false, false⟩ (rs.flatMap (fun r => if E r.cp then [bs, r] else [r]) ++ rest)
      = run ⟨m, buf ++ rs.map (·.cp), false, false⟩ rest := by
  induction rs generalizing buf with
  | nil => simp
  | cons r rs ih =>
    rw [List.flatMap_cons, List.append_assoc, List.map_cons, List.append_cons, ← ih]
    refine run_written (fun hr => ⟨hbs buf, ?_⟩) (fun hr => ?_) _
    · rw [hesc, accum_escaped (hE _ hr)]
    · rw [hplain buf r hr, accum_plain fun h => by rw [h, h92] at hr; cases hr]

theorem run_str_escTerm (rs : List R) (buf : Text) (rest : List R) :
    run ⟨.str, buf, false, false⟩ (escTerm rs ++ rest) = run ⟨.str, buf ++ rs.map (·.cp), false, false⟩ rest :=
  run_esc .str reserved.contains (hesc := fun _ _ => rfl) (hbs := fun _ => rfl)
    -- a rune that is not reserved is none of the runes `step` tests for in a string
    (hplain := fun _ _ h => by simp (disch := decide) [step, handsBack, beq_of_not_reserved h])
    reserved_92 (fun _ h => h) rs buf rest

theorem run_phrase_esc (rs : List R) (buf : Text) (rest : List R) :
    run ⟨.phrase, buf, false, false⟩ (escPhrase rs ++ rest)
      = run ⟨.phrase, buf ++ rs.map (·.cp), false, false⟩ rest :=
  run_esc .phrase (fun c => c == 34 || c == 92) (hesc := fun _ _ => rfl) (hbs := fun _ => rfl)
    (hplain := fun _ _ h => by rw [Bool.or_eq_false_iff] at h; simp [step, h.1]) rfl
    (fun c h => by simp at h; rcases h with rfl | rfl <;> decide) rs buf rest

/-- the first rune of an escaped term opens a string from the start state, the rest only grows the buffer -/
theorem run_fresh_escTerm (r : R) (rs : List R) (rest : List R)
    (h0 : reserved.contains r.cp = true ∨ (r.digit = false ∧ r.space = false)) :
    run fresh (escTerm (r :: rs) ++ rest) = run ⟨.str, (r :: rs).map (·.cp), false, false⟩ rest := by
  rw [escTerm, List.flatMap_cons, List.append_assoc]
  refine (run_written (s₁ := ⟨.start, [], true, false⟩) (fun hr => ⟨rfl, ?_⟩) (fun hr => ?_) _).trans
    (run_str_escTerm rs [r.cp] rest)
  · simp only [step, startStep, unesc, hr]; rfl
  · obtain ⟨hd, hs⟩ := h0.resolve_left (Bool.eq_false_iff.1 hr)
    simp (disch := decide) [step, startStep, fresh, hd, hs, beq_of_not_reserved hr]

/-- **Any text can be written as one term.**  Escape every reserved character; unless the text starts
with a digit (then it may lex as a number) or with an unescapable space-class rune (eaten as
separator), the lexer returns exactly one STRING token carrying the text. -/
theorem lex_escTerm (r : R) (rs : List R)
    (h0 : reserved.contains r.cp = true ∨ (r.digit = false ∧ r.space = false)) :
    lex (escTerm (r :: rs)) = ([⟨.STRING, (r :: rs).map (·.cp)⟩], false) := by
  rw [lex, ← List.append_nil (escTerm _), run_fresh_escTerm r rs [] h0]
  rfl

/-- **Any text can be written as one phrase**: between quotes, with `"` and `\` escaped. -/
theorem lex_phrase (rs : List R) :
    lex (quote :: (escPhrase rs ++ [quote])) = ([⟨.PHRASE, rs.map (·.cp)⟩], false) := by
  rw [lex, run_silent (s' := ⟨.phrase, [], false, false⟩) rfl, run_phrase_esc]
  rfl

theorem run_error_iff (s : LS) (l : List R) :
    (run s l).2 = true ↔ (l.foldl (fun s r => (step s r).1) s).mode = .phrase := by
  induction l generalizing s with
  | nil => cases hm : s.mode <;> simp [run, finish, hm]
  | cons r rs ih => simpa [run] using ih _

/-- the lexer's only error: an opening quote that is never closed -/
theorem lex_error_iff_in_phrase (input : List R) :
    (lex input).2 = true ↔ ∃ s, (input.foldl (fun s r => (step s r).1) fresh) = s ∧ s.mode = .phrase := by
  rw [exists_eq_left']
  exact run_error_iff fresh input

example : lex [⟨97, false, false⟩, ⟨58, false, false⟩, ⟨34, false, false⟩, ⟨98, false, false⟩, ⟨34, false, false⟩, ⟨126, false, false⟩, ⟨50, true, false⟩]
    = ([⟨.STRING, [97]⟩, ⟨.COLON, []⟩, ⟨.PHRASE, [98]⟩, ⟨.TILDE, [50]⟩], false) := by decide

/-! ### the grammar: the documented syntax parses back to what was written -/

def renderNum (n : Text) : List Tok :=
  match n with
  | 45 :: m => [⟨.MINUS, []⟩, ⟨.NUMBER, m⟩]
  | _ => [⟨.NUMBER, n⟩]

def cmpToks : Cmp → List Tok
  | .gt => [⟨.GREATER, []⟩]
  | .ge => [⟨.GREATER, []⟩, ⟨.EQUAL, []⟩]
  | .lt => [⟨.LESS, []⟩]
  | .le => [⟨.LESS, []⟩, ⟨.EQUAL, []⟩]

def fieldToks : Option Text → List Tok
  | none => []
  | some f => [⟨.STRING, f⟩, ⟨.COLON, []⟩]

/-- the documented way to write a clause, as tokens -/
def renderBase : Base → List Tok
  | .str f s => fieldToks f ++ [⟨.STRING, s⟩]
  | .fuzzy f s z => fieldToks f ++ [⟨.STRING, s⟩, ⟨.TILDE, z⟩]
  | .num none n => [⟨.NUMBER, n⟩]
  | .num (some f) n => fieldToks (some f) ++ renderNum n
  | .phrase f p => fieldToks f ++ [⟨.PHRASE, p⟩]
  | .cmp f op n => fieldToks (some f) ++ cmpToks op ++ renderNum n
  | .cmpDate f op p => fieldToks (some f) ++ cmpToks op ++ [⟨.PHRASE, p⟩]

def renderPart (p : Part) : List Tok :=
  (match p.occ with | .should => [] | .must => [⟨.PLUS, []⟩] | .mustNot => [⟨.MINUS, []⟩])
    ++ renderBase p.base ++ (match p.boost with | none => [] | some b => [⟨.BOOST, b⟩])

/-- `l` does not begin with a token of type `ty`: the form of the side conditions in the equations
of `base`, `fielded` and `part` -/
def NotHead (ty : TT) (l : List Tok) : Prop := ∀ x r, l = ⟨ty, x⟩ :: r → False

theorem notHead_of_mem {S : List TT} {t : Tok} (ht : t.ty ∈ S) {ty : TT} (hty : ty ∉ S) {l : List Tok} :
    NotHead ty (t :: l) :=
  fun _ _ e => hty (by cases e; exact ht)

theorem posNeg_render (n : Text) (rest : List Tok) : posNeg (renderNum n ++ rest) = some (n, rest) := by
  unfold renderNum
  split <;> rfl

theorem base_render (b : Base) (rest : List Tok) (hC : NotHead .COLON rest) (hT : NotHead .TILDE rest) :
    base (renderBase b ++ rest) = some (b, rest) := by
  -- `base.eq_4`: a bare STRING, `base.eq_6`: a bare PHRASE, `fielded.eq_2`: a STRING after `field:`; each
  -- asks that what follows is not the token that would make it a longer clause
  cases b with
  | str f s =>
    cases f with
    | none => exact base.eq_4 s rest hC hT
    | some f => exact fielded.eq_2 f s rest hT
  | fuzzy f s z => cases f <;> rfl
  | num f n =>
    cases f with
    | none => rfl
    | some f =>
      show fielded f (renderNum n ++ rest) = _
      unfold renderNum
      split <;> rfl
  | phrase f p =>
    cases f with
    | none => exact base.eq_6 p rest hC
    | some f => rfl
  | cmp f op n =>
    show fielded f (cmpToks op ++ renderNum n ++ rest) = _
    unfold renderNum
    cases op <;> split <;> rfl
  | cmpDate f op p => cases op <;> rfl

theorem renderBase_head (b : Base) : ∃ t ts, renderBase b = t :: ts ∧ t.ty ∈ [TT.STRING, .NUMBER, .PHRASE] := by
  cases b with
  | cmp | cmpDate => exact ⟨_, _, rfl, by simp⟩
  | str f | fuzzy f | num f | phrase f => cases f <;> exact ⟨_, _, rfl, by simp⟩

theorem renderPart_head (p : Part) :
    ∃ t ts, renderPart p = t :: ts ∧ t.ty ∈ [TT.PLUS, .MINUS, .STRING, .NUMBER, .PHRASE] := by
  obtain ⟨occ, b, boost⟩ := p
  cases occ with
  | should =>
    obtain ⟨t, ts, hts, ht⟩ := renderBase_head b
    exact ⟨t, _, by simp only [renderPart, hts]; rfl, .tail _ (.tail _ ht)⟩
  | must | mustNot => exact ⟨_, _, rfl, by simp⟩

theorem part_render (p : Part) (rest : List Tok)
    (hC : NotHead .COLON rest) (hT : NotHead .TILDE rest) (hB : NotHead .BOOST rest) :
    part (renderPart p ++ rest) = some (p, rest) := by
  obtain ⟨occ, b, boost⟩ := p
  simp only [renderPart, List.append_assoc]
  generalize htail : (match boost with | none => [] | some x => [⟨.BOOST, x⟩]) ++ rest = tail
  -- `base` reads the clause and stops at `tail`, which begins with the boost if there is one
  have hb : base (renderBase b ++ tail) = some (b, tail) := by
    cases boost <;> subst htail
    · exact base_render b _ hC hT
    · exact base_render b _ nofun nofun
  obtain ⟨t, ts, hts, ht⟩ := renderBase_head b
  have hnh {ty : TT} (h : ty ∉ [TT.STRING, .NUMBER, .PHRASE]) : NotHead ty (renderBase b ++ tail) := by
    rw [hts]; exact notHead_of_mem ht h
  -- `part.eq_1`: a leading PLUS, `part.eq_2`: a leading MINUS, `part.eq_3`: neither
  cases occ
  case' should => refine (part.eq_3 (renderBase b ++ tail) (hnh (by decide)) (hnh (by decide))).trans ?_
  case' must => refine (part.eq_1 [] (renderBase b ++ tail)).trans ?_
  case' mustNot => refine (part.eq_2 [] (renderBase b ++ tail)).trans ?_
  -- whatever the prefix, what is left of `part` is its match on `tail`
  all_goals
    rw [hb]
    cases boost <;> subst htail
    · simp only [List.nil_append]
      split
      · exact (hB _ _ rfl).elim
      · rfl
    · rfl

/-- as much fuel as there are clauses after the first is enough -/
theorem partsF_render (p : Part) (ps : List Part) (fuel : Nat) (hf : ps.length ≤ fuel) :
    partsF (fuel + 1) ((p :: ps).flatMap renderPart) = some (p :: ps) := by
  induction ps generalizing p fuel with
  | nil =>
    rw [List.flatMap_cons, List.flatMap_nil, partsF, part_render p [] nofun nofun nofun]
  | cons q qs ih =>
    obtain ⟨t, ts, hq, ht⟩ := renderPart_head q
    obtain ⟨fuel, rfl⟩ : ∃ n, fuel = n + 1 :=
      ⟨fuel - 1, (Nat.sub_add_cancel (Nat.lt_of_lt_of_le (Nat.succ_pos _) hf)).symm⟩
    have ih := ih q fuel (Nat.le_of_succ_le_succ hf)
    rw [List.flatMap_cons, hq, List.cons_append] at ih
    rw [List.flatMap_cons, List.flatMap_cons, hq, List.cons_append, partsF, part_render p _
      (notHead_of_mem ht (by decide)) (notHead_of_mem ht (by decide)) (notHead_of_mem ht (by decide))]
    simp only [ih, Option.map_some]

/-- every clause is written with at least one token -/
theorem length_le_render (ps : List Part) : ps.length ≤ (ps.flatMap renderPart).length := by
  induction ps with
  | nil => exact Nat.le_refl _
  | cons p ps ih =>
    obtain ⟨_, _, hp, _⟩ := renderPart_head p
    rw [List.flatMap_cons, hp, List.length_append, List.length_cons, List.length_cons]
    omega

/-- **The documented syntax parses back.**  Any non-empty list of clauses — each with its occurrence
prefix, optional field, term / fuzzy term / number / phrase / numeric or date comparison, optional
boost — written as the tokens the grammar documents is accepted and yields exactly those clauses, in
order. -/
theorem parts_render (ps : List Part) (h : ps ≠ []) : parts (ps.flatMap renderPart) = some ps := by
  obtain ⟨p, ps, rfl⟩ := List.exists_cons_of_ne_nil h
  -- `parts` gives one unit of fuel per token and one more
  exact partsF_render p ps _ (Nat.le_of_succ_le (length_le_render (p :: ps)))

/-- nothing is accepted without at least one clause; a stray operator is a syntax error -/
example : parts [] = none := by decide
example : parts [⟨.COLON, []⟩] = none := by decide
example : parts [⟨.STRING, [97]⟩, ⟨.COLON, []⟩] = none := by decide
example : parts [⟨.NUMBER, [49]⟩, ⟨.COLON, []⟩, ⟨.NUMBER, [50]⟩] = none := by decide
example : parts [⟨.PLUS, []⟩, ⟨.STRING, [97]⟩, ⟨.COLON, []⟩, ⟨.GREATER, []⟩, ⟨.EQUAL, []⟩, ⟨.MINUS, []⟩, ⟨.NUMBER, [49]⟩, ⟨.BOOST, [50]⟩, ⟨.STRING, [98]⟩]
    = some [⟨.must, .cmp [97] .ge [45, 49], some [50]⟩, ⟨.should, .str none [98], none⟩] := by decide

/-! ### field scoping, from characters to the clause -/

/-- **`field:term` at the level of characters.**  Written with its reserved characters escaped, a
field name, a colon and a term lex to STRING COLON STRING and parse to the one clause "term in
field", optional; with a leading `+` the clause is required. -/
theorem lex_parse_field_term (f : R) (fs : List R) (t : R) (ts : List R)
    (hf : reserved.contains f.cp = true ∨ (f.digit = false ∧ f.space = false))
    (ht : reserved.contains t.cp = true ∨ (t.digit = false ∧ t.space = false)) :
    lex (escTerm (f :: fs) ++ colon :: escTerm (t :: ts))
      = ([⟨.STRING, (f :: fs).map (·.cp)⟩, ⟨.COLON, []⟩, ⟨.STRING, (t :: ts).map (·.cp)⟩], false) ∧
    parts [⟨.STRING, (f :: fs).map (·.cp)⟩, ⟨.COLON, []⟩, ⟨.STRING, (t :: ts).map (·.cp)⟩]
      = some [⟨.should, .str (some ((f :: fs).map (·.cp))) ((t :: ts).map (·.cp)), none⟩] := by
  constructor
  · rw [lex, run_fresh_escTerm f fs _ hf, run_emit (s' := ⟨.op, [58], false, false⟩) (t := ⟨.STRING, _⟩) rfl,
      run_op, ← lex, lex_escTerm t ts ht]
    rfl
  · exact parts_render [⟨.should, .str (some _) _, none⟩] (List.cons_ne_nil _ _)

/-- **Clauses are separated by a space**: two escaped terms with a space between them are two STRING
tokens, and parse to two optional clauses in that order. -/
theorem lex_parse_two_terms (a : R) (as : List R) (b : R) (bs' : List R)
    (ha : reserved.contains a.cp = true ∨ (a.digit = false ∧ a.space = false))
    (hb : reserved.contains b.cp = true ∨ (b.digit = false ∧ b.space = false)) :
    lex (escTerm (a :: as) ++ space :: escTerm (b :: bs'))
      = ([⟨.STRING, (a :: as).map (·.cp)⟩, ⟨.STRING, (b :: bs').map (·.cp)⟩], false) ∧
    parts [⟨.STRING, (a :: as).map (·.cp)⟩, ⟨.STRING, (b :: bs').map (·.cp)⟩]
      = some [⟨.should, .str none ((a :: as).map (·.cp)), none⟩, ⟨.should, .str none ((b :: bs').map (·.cp)), none⟩] := by
  constructor
  · rw [lex, run_fresh_escTerm a as _ ha, run_emit (s' := fresh) (t := ⟨.STRING, _⟩) rfl, ← lex,
      lex_escTerm b bs' hb]
  · exact parts_render [⟨.should, .str none _, none⟩, ⟨.should, .str none _, none⟩] (List.cons_ne_nil _ _)

end Bleve.QueryString
