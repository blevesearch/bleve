import BleveModel.Props.Snapshot
/-!
# C05 — Merging and persisting never change what any search returns

"For a fixed logical content, every request returns the same answer whatever the physical segment
layout: however the history was batched, whether segments are still in memory or on disk, before and
after background merges, in-memory merges by any number of persister workers, forced merges, and
close/reopen. Hit ids, Total, order under any sort, stored fields, term locations and highlights,
facet counts and tf-idf scores are all identical."

Proved (over `Model/Snapshot.lean`, for every history): two runs of the introducer that were given
the same batches but any different merges in between answer every lookup identically, have the same
document count and both keep the one-live-document-per-id invariant — the logical content is a
function of the batches alone.  Every root swap of the real introducer (segment introduction, merge,
persist) is replayed on the model by `./check C05` (structural equality for introductions, equal
live documents for merges and persists), and the same request family is run on seven layouts of the
same history and compared bit for bit, scores included.
Two score deviations of the unchanged tree are known findings (KNOWN_FINDINGS.txt).
-/
namespace Bleve.Snapshot
open Bleve.KV (Bytes)

/-- **The content is a function of what the batches replay to**: two histories whose batch lists
    replay alike (same batches and any merges; the same operations cut into batches differently)
    answer every lookup alike and hold the same live documents up to order (so `DocCount`, every
    enumeration and every answer computed from the live documents agree). -/
theorem content_of_replay (es₁ es₂ : List Event) (h₁ : WellFormed es₁) (h₂ : WellFormed es₂)
    (hb : ∀ id, replay (batchesOf es₁) id = replay (batchesOf es₂) id) :
    (∀ id, lookup (run es₁) id = lookup (run es₂) id) ∧ (liveDocs (run es₁)).Perm (liveDocs (run es₂)) := by
  have hl : ∀ id, lookup (run es₁) id = lookup (run es₂) id := fun id => by
    rw [(reachable_refines es₁ id h₁).1, (reachable_refines es₂ id h₂).1, hb id]
  exact ⟨hl, Assoc.perm_of_lookup_eq (run_inv h₁) (run_inv h₂) hl⟩

/-- **Layout independence of the content**: same batches, any merges ⇒ same answer to every lookup. -/
theorem layout_independent (es₁ es₂ : List Event) (id : Bytes) (h₁ : WellFormed es₁) (h₂ : WellFormed es₂)
    (hb : batchesOf es₁ = batchesOf es₂) : lookup (run es₁) id = lookup (run es₂) id :=
  (content_of_replay es₁ es₂ h₁ h₂ fun _ => by rw [hb]).1 id

/-- inserting a merge anywhere in a history changes no lookup -/
theorem merge_anywhere (es₁ es₂ : List Event) (sids : List Nat) (n : Nat) (id : Bytes)
    (h₁ : WellFormed es₁) (h₂ : WellFormed es₂) :
    lookup (run (es₁ ++ [.merge sids n] ++ es₂)) id = lookup (run (es₁ ++ es₂)) id := by
  -- what follows the merge sees its starting root only through lookups, which the merge keeps
  have h : Inv (es₁.foldl step []) := run_inv h₁
  simp only [run, List.foldl_append, List.foldl_cons, List.foldl_nil, step]
  rw [(foldl_step_refines (merge_inv _ sids n h) h₂).2, (foldl_step_refines h h₂).2,
    merge_lookup _ sids n id h]

/-- the number of live documents is a function of the batches alone as well -/
theorem docCount_merge_anywhere (r : Snap) (sids : List Nat) (n : Nat) :
    docCount (mergeSegs r sids n) = docCount r := merge_docCount r sids n

/-! ## the whole content, not one lookup at a time -/

/-- **Layout independence of the whole content**: same batches, any merges ⇒ the live documents of the
    two roots are the same multiset. -/
theorem layout_independent_content (es₁ es₂ : List Event) (h₁ : WellFormed es₁) (h₂ : WellFormed es₂)
    (hb : batchesOf es₁ = batchesOf es₂) : (liveDocs (run es₁)).Perm (liveDocs (run es₂)) :=
  (content_of_replay es₁ es₂ h₁ h₂ fun _ => by rw [hb]).2

/-- … hence the same `DocCount` -/
theorem layout_independent_docCount (es₁ es₂ : List Event) (h₁ : WellFormed es₁) (h₂ : WellFormed es₂)
    (hb : batchesOf es₁ = batchesOf es₂) : docCount (run es₁) = docCount (run es₂) :=
  (layout_independent_content es₁ es₂ h₁ h₂ hb).length_eq

/-- **Re-batching**: two histories whose batch lists replay to the same content (whatever the cut
    points) answer every lookup alike and count the same documents. -/
theorem rebatch_independent (es₁ es₂ : List Event) (h₁ : WellFormed es₁) (h₂ : WellFormed es₂)
    (hb : ∀ id, replay (batchesOf es₁) id = replay (batchesOf es₂) id) :
    (∀ id, lookup (run es₁) id = lookup (run es₂) id) ∧ docCount (run es₁) = docCount (run es₂) :=
  (content_of_replay es₁ es₂ h₁ h₂ hb).imp_right List.Perm.length_eq

/-- cutting one batch with distinct ids in two consecutive batches replays to the same content -/
theorem replayLast_split (b₁ b₂ : Batch) (rest : List Batch) (id : Bytes)
    (hn : ((b₁ ++ b₂).map (·.1)).Nodup) :
    replay.replayLast (b₁ :: b₂ :: rest) id = replay.replayLast ((b₁ ++ b₂) :: rest) id := by
  simp only [replay.replayLast, batchSays]
  cases replay.replayLast rest id with
  | some v => rfl
  | none =>
    -- the left side asks `b₂` first, the right side `b₁`: the same, as no id is in both
    rw [Assoc.lookup_eq_of_perm hn List.perm_append_comm id, List.lookup_append]
    cases b₂.lookup id <;> rfl

example : docCount (run [.batch [([1], some [10]), ([2], some [20])] 1, .batch [([1], none)] 2, .merge [1, 2] 3])
    = docCount (run [.batch [([1], some [10]), ([2], some [20])] 7, .batch [([1], none)] 9]) := by decide

end Bleve.Snapshot
