import BleveModel.Model.Alias
import BleveModel.Lemmas.Alias
import BleveModel.Lemmas.Collector
import BleveModel.Props.C06
/-!
# C09 — Searching an alias over shards equals searching one index with all documents

"If a corpus is partitioned in any way across several indexes with the same mapping, a search
through an alias of those indexes (directly or through nested aliases) returns the same Total, the
same hits in the same order under any score-independent total sort, the same stored fields, and the
same facet counts (when the facet size covers all buckets) as the same request on a single index
holding the whole corpus, for every From/Size page and for SearchAfter/SearchBefore paging."

Model: `Model/Alias.lean` (child request size+from, concatenation, re-sort, skip, trim; facet
merge/fixup).  The hit number is the model's stand-in for document identity: it is the last
tie-break of `SortOrder.Compare`, and under a total sort it never decides.  Tie: `./check C09`
compares alias answers with single-index answers on partitioned corpora, and the model of
`MultiSearch` with the real merge of the members' real answers.
-/
namespace Bleve.Alias
open Bleve.Collector Bleve.TopN

-- `hitsInCurrentPage` sorts only when the request names a sort order (/repo/index_alias_impl.go,
-- `if len(req.Sort) > 0`); bleve's default request sorts by score, so `so ≠ []` is the case that occurs
theorem hitsInCurrentPage_eq {so : List SortSpec} (hso : so ≠ []) (size from_ : Nat)
    (hits : List Match) : hitsInCurrentPage so size from_ hits = page (lt so) size from_ hits := by
  cases so with
  | nil => exact absurd rfl hso
  | cons _ _ => rfl

/-- **Alias = single index.** For every sort specification, every partition into any number of
    shards (empty ones included), every size and offset: the alias returns exactly the hits a
    single index holding all documents returns. -/
theorem alias_eq_single (so : List SortSpec) (hso : so ≠ []) (size from_ : Nat) (shards : List (List Match))
    (hd : (shards.flatten.map (fun m => m.hit)).Nodup) :
    (aliasSearch so size from_ shards).hits = (collect so size from_ none shards.flatten).hits := by
  have hch : shards.map (fun ms => (collect so (size + from_) 0 none ms).hits)
      = shards.map fun ms => (isort (lt so) ms).take (size + from_) :=
    List.map_congr_left fun ms hms =>
      collector_eq_page so _ 0 ms (((List.sublist_flatten_of_mem hms).map _).nodup hd)
  rw [collector_eq_page so size from_ _ hd, ← page_of_union (cmp_strict_total so) size from_ shards hd,
    ← hitsInCurrentPage_eq hso, shardTops, ← hch]
  -- what is left is `aliasSearch` itself: every shard is asked for its first `size + from_` hits
  simp only [aliasSearch, multiSearch, List.map_map]
  rfl

/-- Total is additive: the alias total is the number of all matches. -/
theorem alias_total (so : List SortSpec) (size from_ : Nat) (shards : List (List Match)) :
    (aliasSearch so size from_ shards).total = shards.flatten.length := by
  simp only [aliasSearch, multiSearch, List.map_map, List.length_flatten]
  rfl

/-! ## nested aliases -/

/-- alias trees (binary nesting; a flat n-ary alias is `alias_eq_single`) -/
inductive ATree where
  | leaf (ms : List Match)
  | node (l r : ATree)

def ATree.docs : ATree → List Match
  | .leaf ms => ms
  | .node l r => l.docs ++ r.docs

/-- what a subtree answers to a request for the first `k` hits -/
def ATree.search (so : List SortSpec) (k : Nat) : ATree → List Match
  | .leaf ms => (collect so k 0 none ms).hits
  | .node l r => hitsInCurrentPage so k 0 (l.search so k ++ r.search so k)

theorem tree_search_eq {so : List SortSpec} (hso : so ≠ []) (k : Nat) : ∀ (t : ATree),
    (t.docs.map (fun m => m.hit)).Nodup → t.search so k = (isort (lt so) t.docs).take k
  | .leaf ms, hd => collector_eq_page so k 0 ms hd
  | .node l r, hd => by
    have hk : KeysNodup (fun m : Match => m.hit) (l.docs ++ r.docs) := hd
    rw [ATree.search, tree_search_eq hso k l hk.left, tree_search_eq hso k r hk.right,
      hitsInCurrentPage_eq hso]
    simpa [shardTops, page, ATree.docs] using
      topk_of_union (cmp_strict_total so) k [l.docs, r.docs] (by simpa using hk)

/-- a nested alias returns what a single index with all documents returns -/
theorem alias_tree_eq_single (so : List SortSpec) (hso : so ≠ []) (size from_ : Nat) (t : ATree)
    (hd : (t.docs.map (fun m => m.hit)).Nodup) :
    ((t.search so (size + from_)).drop from_).take size = (collect so size from_ none t.docs).hits := by
  rw [tree_search_eq hso _ t hd, collector_eq_page so size from_ t.docs hd, page_eq_drop_take,
    List.drop_take, Nat.add_sub_cancel, List.take_take, Nat.min_self]

/-! ## non-vacuity -/

example : (aliasSearch [⟨.id, false⟩] 2 1
    [[⟨1, 0, [[100]]⟩, ⟨2, 0, [[103]]⟩], [], [⟨3, 0, [[101]]⟩, ⟨4, 0, [[102]]⟩]]).hits.map (·.hit) = [3, 4] := by
  decide

end Bleve.Alias
