import BleveModel.Model.History
/-!
# C04 — Readers see whole batches, in order, and a reader's view never changes

"While writers, the persister and the merger run concurrently, every search or reader observes the
index exactly as it was after some prefix of each writer's completed-or-in-flight batches: never
part of a batch, and never a state older than a batch whose call had already returned when the read
began. Successive reads by one client never go backwards, and an index reader, once obtained,
returns identical answers for its whole lifetime no matter what is indexed, merged, persisted or
purged meanwhile."

Two proved parts.  (1) `Props/Snapshot.lean`: every root the introducer can produce is the replay of
a prefix of the introduced batches, an introduction changes all of a batch's documents in one step,
merges and persists change nothing (`introduce_lookup`, `merge_lookup`, `reachable_refines`) — so a
reader, which captures one root, sees whole batches.  (2) the monitor below: `check` is *exactly*
the specification `Consistent` (`check_iff`), so an observation the monitor rejects is a real
violation and one it accepts really is a whole-batch, acknowledged-covering, monotone view.
`./check C04` records observations made through real readers while writers, persister and merger
run, and evaluates `check` on each of them in Lean.  **Partial**: that the Go runtime delivers the
modelled atomicity of the root swap is exercised by these runs, not proved.
-/
namespace Bleve.History

theorem allLe_iff : ∀ (a b : List Nat), allLe a b = true ↔ ∀ i, a.getD i 0 ≤ b.getD i 0 := by
  intro a
  induction a with
  | nil => intro b; simp only [allLe, List.getD_nil, Nat.zero_le, implies_true]
  | cons x xs ih =>
    intro b
    -- all indices of `x :: xs`: index 0, and all indices of `xs`
    rw [← Nat.and_forall_add_one]
    cases b with
    | nil =>
      simp only [allLe, Bool.and_eq_true, beq_iff_eq, ih, List.getD_cons_zero, List.getD_cons_succ,
        List.getD_nil, Nat.le_zero]
    | cons y ys =>
      simp only [allLe, Bool.and_eq_true, decide_eq_true_eq, ih, List.getD_cons_zero, List.getD_cons_succ]

/-- **The monitor is the specification.** -/
theorem check_iff (ks prev : List Nat) (o : Obs) : check ks prev o = true ↔ Consistent ks prev o := by
  simp only [check, Bool.and_eq_true, beq_iff_eq, allLe_iff]
  constructor
  · intro ⟨⟨⟨⟨hlen, hdocs⟩, hcount⟩, hacked⟩, hprev⟩
    exact ⟨o.ints, hlen, hdocs, rfl, hcount, hacked, hprev⟩
  · intro ⟨_, hlen, hdocs, rfl, hcount, hacked, hprev⟩
    exact ⟨⟨⟨⟨hlen, hdocs⟩, hcount⟩, hacked⟩, hprev⟩

/-- a consistent observation never shows part of a batch: what is seen of writer `w`'s documents is
    exactly their state after the batch whose number is in the writer's internal key -/
theorem whole_batches (ks prev : List Nat) (o : Obs) (h : Consistent ks prev o) (w : Nat) (ds : List Nat)
    (hw : o.docs[w]? = some ds) : ∃ k, ks[w]? = some k ∧ ds = docsAfter k (o.ints.getD w 0) := by
  obtain ⟨_, _, hdocs, rfl, _, _, _⟩ := h
  rw [hdocs, List.getElem?_map, Option.map_eq_some_iff] at hw
  obtain ⟨kp, hz, rfl⟩ := hw
  rw [List.getElem?_zip_eq_some] at hz
  exact ⟨kp.1, hz.1, by simp [List.getD, hz.2]⟩

/-- in particular every fixed document of a writer carries the number in the writer's internal key -/
theorem fixed_docs_one_seq (ks prev : List Nat) (o : Obs) (h : Consistent ks prev o) (w : Nat) (ds : List Nat)
    (hw : o.docs[w]? = some ds) : ∃ k, ks[w]? = some k ∧ ds.take k = List.replicate k (o.ints.getD w 0) := by
  obtain ⟨k, hk, hds⟩ := whole_batches ks prev o h w ds hw
  refine ⟨k, hk, ?_⟩
  subst hds
  unfold docsAfter
  rw [List.append_assoc, List.take_append_of_le_length (by simp)]
  simp

/-- a ring slot never runs ahead of the writer's batch number and is at most five batches behind -/
theorem ring_le (p s : Nat) : ring p s ≤ p := by
  unfold ring
  split
  · exact Nat.zero_le p
  · exact Nat.sub_le _ _

theorem ring_recent (p s : Nat) (hs : s < 6) (hp : 6 ≤ p) : p < ring p s + 6 := by
  rw [ring, if_neg (Nat.not_lt.2 (Nat.le_trans (Nat.le_of_lt hs) hp))]
  -- the slot lags behind by `(p - s) % 6 < 6`
  have hm : (p - s) % 6 < 6 := Nat.mod_lt _ (by decide)
  calc p = p - (p - s) % 6 + (p - s) % 6 := (Nat.sub_add_cancel (Nat.le_trans (Nat.le_of_lt hm) hp)).symm
    _ < p - (p - s) % 6 + 6 := Nat.add_lt_add_left hm _

/-- successive accepted observations of one client never go backwards -/
theorem monotone_reads (ks prev : List Nat) (o : Obs) (h : Consistent ks prev o) :
    ∀ i, prev.getD i 0 ≤ o.ints.getD i 0 := by
  obtain ⟨_, _, _, rfl, _, _, hprev⟩ := h
  exact hprev

/-- ... and never miss an acknowledged batch -/
theorem covers_acked (ks prev : List Nat) (o : Obs) (h : Consistent ks prev o) :
    ∀ i, o.acked.getD i 0 ≤ o.ints.getD i 0 := by
  obtain ⟨_, _, _, rfl, _, hacked, _⟩ := h
  exact hacked

/-- what the shared-document monitor accepts -/
theorem sharedOK_iff (ints : List Nat) (present : Bool) (w n : Nat) :
    sharedOK ints present w n = true ↔
      ((∀ x ∈ ints, x = 0) ∧ present = false) ∨
      ((∃ x ∈ ints, x ≠ 0) ∧ present = true ∧ 0 < n ∧ ints.getD w 0 = n) := by
  have hall : ints.all (· == 0) = true ↔ ∀ x ∈ ints, x = 0 := by simp
  have hex : (∃ x ∈ ints, x ≠ 0) ↔ ¬ ∀ x ∈ ints, x = 0 := by simp
  rw [sharedOK, hex, ← hall]
  cases ints.all (· == 0) <;> simp [and_assoc]

example : sharedOK [4, 7] true 1 7 = true := by decide
example : sharedOK [4, 7] true 1 6 = false := by decide     -- a copy from an earlier batch of writer 1
example : sharedOK [0, 0] true 0 1 = false := by decide

example : docsAfter 2 8 = [8, 8, 8, 8, 6, 7, 8, 3, 4, 5] := by decide
example : check [2, 2] [0, 0] ⟨1, [1, 0], [[1, 1, 1, 0, 0, 1, 0, 0, 0, 0], [0, 0, 0, 0, 0, 0, 0, 0, 0, 0]], [1, 0], 4⟩ = true := by decide
example : check [2, 2] [0, 0] ⟨1, [1, 0], [[1, 2, 1, 0, 0, 1, 0, 0, 0, 0], [0, 0, 0, 0, 0, 0, 0, 0, 0, 0]], [1, 0], 4⟩ = false := by decide   -- half a batch
example : check [2, 2] [0, 0] ⟨1, [2, 0], [[1, 1, 1, 0, 0, 1, 0, 0, 0, 0], [0, 0, 0, 0, 0, 0, 0, 0, 0, 0]], [1, 0], 4⟩ = false := by decide   -- older than acknowledged
example : check [2, 2] [0, 0] ⟨1, [1, 0], [[1, 1, 1, 0, 0, 1, 0, 0, 0, 0], [0, 0, 0, 0, 0, 0, 0, 0, 0, 0]], [1, 0], 3⟩ = false := by decide   -- count from another moment

end Bleve.History
