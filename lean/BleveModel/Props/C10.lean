import BleveModel.Model.Facet
import BleveModel.Lemmas.TopN
import BleveModel.Lemmas.Collector
/-!
# C10 — Facet counts describe all matching documents, not only the returned page

"For any query and any facet request, a terms facet reports for each returned term the number of
matching documents containing it, in descending count then ascending term order, with Total, Missing
and Other accounting for every matching document and term not listed; numeric and date range facets
report for each range the number of values of matching documents falling in [min, max). The result
does not depend on Size, From or the sort of the request."

Model: `Model/Facet.lean`.  The facet result is a function of the list of matching documents' field
terms only — page size, offset and sort are not inputs of the model at all; that the real collector
feeds the builders with *every* match (before the bounded store) is what the correspondence checks
(`./check C10`: Index.Search with random Size/From/Sort and 1–3 facets, on both engines).
-/
namespace Bleve.Facet
open Bleve.TopN Bleve.Collector

/-! ## the bucket order is a strict total order on buckets with distinct names -/

/-- `bucketLt` as a three-way comparison: count descending, then name ascending -/
def bucketCmp : Bucket → Bucket → Int :=
  lexCmp [fun a b => cmpInt b.count a.count] (fun a b => cmpBytes a.name b.name)

theorem bucketCmp_isCmp : IsCmp bucketCmp :=
  (cmpInt_isCmp.comap fun b : Bucket => (b.count : Int)).flip.lex
    (cmpBytes_isCmp.comap fun b : Bucket => b.name)

theorem bucketLt_eq (a b : Bucket) : bucketLt a b = decide (bucketCmp a b < 0) := by
  have h0 : cmpInt b.count a.count = 0 ↔ a.count = b.count := by
    rw [cmpInt_eq_zero, Int.ofNat_inj, eq_comm]
  show _ = decide ((if cmpInt b.count a.count ≠ 0 then cmpInt b.count a.count
    else cmpBytes a.name b.name) < 0)
  unfold bucketLt
  by_cases h : a.count = b.count
  · rw [if_pos (beq_iff_eq.2 h), if_neg (not_not_intro (h0.2 h))]
  · rw [if_neg (mt beq_iff_eq.1 h), if_pos (mt h0.1 h)]
    exact decide_eq_decide.2 ((cmpInt_lt_zero _ _).trans Int.ofNat_lt).symm

theorem bucketLt_ord : Ord bucketLt (fun b : Bucket => b.name) :=
  ord_of_isCmp bucketCmp_isCmp bucketLt_eq fun a b h0 =>
    cmpBytes_eq_zero (lexCmp_zero_tie _ _ a b h0)

/-! ## bump: an association list of counters with distinct names -/

def countOf (counts : List Bucket) (t : Bytes) : Nat :=
  match counts with
  | [] => 0
  | b :: rest => if b.name == t then b.count else countOf rest t

def sumC : List Bucket → Nat
  | [] => 0
  | b :: rest => b.count + sumC rest

theorem countOf_bump (counts : List Bucket) (t u : Bytes) :
    countOf (bump counts t) u = countOf counts u + if t = u then 1 else 0 := by
  induction counts with
  | nil => simp [bump, countOf]
  | cons b rest ih =>
    by_cases hb : b.name = t
    · subst hb
      simp only [bump, countOf, if_true, beq_iff_eq]
      split <;> rfl
    · simp only [bump, countOf, beq_iff_eq, hb, if_false, ih]
      split
      · next hu => rw [if_neg (hu ▸ Ne.symm hb)]; rfl
      · rfl

theorem countOf_foldl_bump (ts : List Bytes) (counts : List Bucket) (u : Bytes) :
    countOf (ts.foldl bump counts) u = countOf counts u + ts.count u := by
  induction ts generalizing counts with
  | nil => rfl
  | cons t ts ih => simp only [List.foldl_cons, ih, countOf_bump, List.count_cons, beq_iff_eq]; omega

theorem sumC_bump (counts : List Bucket) (t : Bytes) : sumC (bump counts t) = sumC counts + 1 := by
  induction counts with
  | nil => rfl
  | cons b rest ih =>
    rw [bump]
    split
    · exact Nat.add_right_comm _ _ _
    · rw [sumC, ih, sumC, Nat.add_assoc]

theorem sumC_foldl_bump (ts : List Bytes) (counts : List Bucket) :
    sumC (ts.foldl bump counts) = sumC counts + ts.length := by
  induction ts generalizing counts with
  | nil => rfl
  | cons t ts ih => rw [List.foldl_cons, ih, sumC_bump, List.length_cons]; omega

theorem names_bump (counts : List Bucket) (t : Bytes) :
    (bump counts t).map (·.name) =
      if t ∈ counts.map (·.name) then counts.map (·.name) else counts.map (·.name) ++ [t] := by
  induction counts with
  | nil => rfl
  | cons b rest ih =>
    simp only [bump]
    split
    · next h => simp [beq_iff_eq.1 h]
    · next h =>
      have : ¬ t = b.name := fun e => h (beq_iff_eq.2 e.symm)
      simp only [List.map_cons, ih, List.mem_cons, this, false_or]
      split <;> rfl

theorem foldl_bump_nodup (ts : List Bytes) (counts : List Bucket) (h : (counts.map (·.name)).Nodup) :
    ((ts.foldl bump counts).map (·.name)).Nodup := by
  induction ts generalizing counts with
  | nil => exact h
  | cons t ts ih =>
    refine ih _ ?_
    rw [names_bump]
    split
    · exact h
    · next ht =>
      exact List.nodup_append.2 ⟨h, List.pairwise_singleton _ t, fun a ha b hb e =>
        ht (List.mem_singleton.1 hb ▸ e ▸ ha)⟩

theorem sumC_eq_sum (l : List Bucket) : sumC l = (l.map (·.count)).sum := by
  induction l with
  | nil => rfl
  | cons b l ih => rw [sumC, ih, List.map_cons, List.sum_cons]

theorem sumCounts_eq (l : List Bucket) : sumCounts l = sumC l := by
  rw [sumC_eq_sum, List.sum_eq_foldl_nat, List.foldl_map]
  rfl

theorem sumC_perm {l₁ l₂ : List Bucket} (h : l₁.Perm l₂) : sumC l₁ = sumC l₂ := by
  rw [sumC_eq_sum, sumC_eq_sum, (h.map _).sum_nat]

theorem sumC_take_le (l : List Bucket) (n : Nat) : sumC (l.take n) ≤ sumC l := by
  have := congrArg sumC (List.take_append_drop n l)
  rw [sumC_eq_sum, List.map_append, List.sum_append_nat, ← sumC_eq_sum] at this
  omega

/-! ## ordering and accounting of the reported buckets -/

theorem listed_sorted (size : Nat) (st : FState) (hn : (st.counts.map (·.name)).Nodup) :
    Sorted bucketLt (result size st).listed :=
  (isort_sorted bucketLt_ord st.counts hn).take

/-- every reported bucket is one of the counters, with its count -/
theorem listed_sub (size : Nat) (st : FState) : ∀ b ∈ (result size st).listed, b ∈ st.counts :=
  fun b hb => (mem_isort bucketLt b st.counts).1 (List.mem_of_mem_take hb)

/-- when the facet size covers all buckets, every counter is reported -/
theorem listed_all (size : Nat) (st : FState) (h : st.counts.length ≤ size) :
    (result size st).listed.Perm st.counts := by
  have hp := isort_perm bucketLt st.counts
  simp only [result]
  rwa [List.take_of_length_le (hp.length_eq ▸ h)]

/-- **Accounting.** Listed counts plus Other add up to Total whenever the counters never exceed
    the total (true for all three builders: `terms_accounting` below, `num_accounting` and
    `date_accounting` in Props/C10Ranges). -/
theorem accounting (size : Nat) (st : FState) (h : sumC st.counts ≤ st.total) :
    sumC (result size st).listed + (result size st).other = (result size st).total := by
  simp only [result, sumCounts_eq]
  have h1 := sumC_take_le (isort bucketLt st.counts) size
  have h2 := sumC_perm (isort_perm bucketLt st.counts)
  omega

/-! ## the common shape of the three builders -/

/-- the per-document step of every builder: the document names the counters to bump, adds to
    Total, and is Missing or not -/
def visit (names : List Bytes → List Bytes) (tot : List Bytes → Nat) (miss : List Bytes → Bool)
    (st : FState) (d : List Bytes) : FState :=
  { counts := (names d).foldl bump st.counts, total := st.total + tot d,
    missing := if miss d then st.missing + 1 else st.missing }

section
variable (names : List Bytes → List Bytes) (tot : List Bytes → Nat) (miss : List Bytes → Bool)

theorem foldl_visit (docs : List (List Bytes)) (st : FState) :
    docs.foldl (visit names tot miss) st =
      { counts := (docs.flatMap names).foldl bump st.counts,
        total := st.total + (docs.map tot).sum,
        missing := st.missing + (docs.filter miss).length } := by
  induction docs generalizing st with
  | nil => rfl
  | cons d ds ih =>
    rw [List.foldl_cons, ih]
    simp only [visit, List.flatMap_cons, List.foldl_append, List.map_cons, List.sum_cons,
      List.filter_cons]
    split <;> simp only [List.length_cons, Nat.add_assoc, Nat.add_comm 1]

theorem visit_counts (docs : List (List Bytes)) (u : Bytes) :
    countOf (docs.foldl (visit names tot miss) {}).counts u
      = (docs.map (fun d => (names d).count u)).sum := by
  rw [foldl_visit, countOf_foldl_bump, List.count_flatMap, countOf, Nat.zero_add]
  rfl

theorem visit_accounting (h : ∀ d, (names d).length ≤ tot d) (size : Nat) (docs : List (List Bytes)) :
    let r := result size (docs.foldl (visit names tot miss) {})
    sumC r.listed + r.other = r.total ∧ r.missing = (docs.filter miss).length := by
  have hle : (docs.flatMap names).length ≤ (docs.map tot).sum := by
    induction docs with
    | nil => exact Nat.le_refl 0
    | cons d ds ih =>
      simp only [List.flatMap_cons, List.length_append, List.map_cons, List.sum_cons]
      have := h d
      omega
  rw [foldl_visit]
  exact ⟨accounting size _ (by simpa [sumC_foldl_bump, sumC] using hle), Nat.zero_add _⟩

end

/-! ## terms facet: what the state holds after all matching documents -/

def accepted (s : TermsSpec) (d : List Bytes) : List Bytes := d.filter s.accepts

theorem termsVisitDoc_eq (s : TermsSpec) :
    termsVisitDoc s = visit (accepted s) List.length (fun d => (accepted s d).isEmpty) := rfl

/-- **Counts.** After all matching documents, the counter of every term is the number of
    (document, accepted occurrence) pairs; when each document lists a term at most once (doc values
    do) that is the number of matching documents containing the term. Total counts every visited
    term; Missing counts the documents without an accepted term. None of this mentions page size,
    offset or sort. -/
theorem terms_counts (s : TermsSpec) (docs : List (List Bytes)) (u : Bytes) :
    let fin := docs.foldl (termsVisitDoc s) {}
    countOf fin.counts u = (docs.map (fun d => (accepted s d).count u)).sum ∧
    fin.total = (docs.map List.length).sum ∧
    fin.missing = (docs.filter (fun d => (accepted s d).isEmpty)).length := by
  refine ⟨visit_counts _ _ _ docs u, ?_⟩
  rw [termsVisitDoc_eq, foldl_visit]
  exact ⟨Nat.zero_add _, Nat.zero_add _⟩

/-- with duplicate-free documents a term's count is the number of matching documents containing it -/
theorem terms_count_is_doc_count (s : TermsSpec) (docs : List (List Bytes)) (u : Bytes)
    (hn : ∀ d ∈ docs, d.Nodup) :
    (docs.map (fun d => (accepted s d).count u)).sum = (docs.filter (fun d => (accepted s d).contains u)).length := by
  induction docs with
  | nil => rfl
  | cons d ds ih =>
    have hd : (accepted s d).Nodup := (hn d (.head _)).sublist List.filter_sublist
    rw [List.map_cons, List.sum_cons, List.filter_cons, ih fun d' hd' => hn d' (.tail _ hd'),
      hd.count]
    simp only [List.contains_iff_mem]
    split
    · rw [List.length_cons]; omega
    · omega

/-- terms facet: Σ listed + Other = Total, for every request and every list of matching documents -/
theorem terms_accounting (s : TermsSpec) (docs : List (List Bytes)) :
    sumC (termsFacet s docs).listed + (termsFacet s docs).other = (termsFacet s docs).total :=
  (visit_accounting (accepted s) List.length _ (fun _ => List.length_filter_le _ _) s.size docs).1

/-- terms facet: reported in descending count, then ascending term order -/
theorem terms_sorted (s : TermsSpec) (docs : List (List Bytes)) :
    Sorted bucketLt (termsFacet s docs).listed := by
  refine listed_sorted s.size _ ?_
  rw [termsVisitDoc_eq, foldl_visit]
  exact foldl_bump_nodup _ [] .nil

/-! ## non-vacuity -/

example : (termsFacet ⟨2, [], none⟩ [[[97], [98]], [[97]], [], [[99]]]).listed = [⟨[97], 2⟩, ⟨[98], 1⟩] := by
  decide
example : (termsFacet ⟨2, [], none⟩ [[[97], [98]], [[97]], [], [[99]]]).other = 1 := by decide

end Bleve.Facet
