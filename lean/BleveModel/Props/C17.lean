import BleveModel.Gen.QueryDispatch
/-!
# C17 — Queries and requests keep their meaning across JSON and the query-string syntax

"Any query value serialises to JSON that parses back to a query returning the same results on any
index, and any search request serialises and parses back to an equivalent request. The query-string
parser accepts or rejects arbitrary input without panicking, and for well-formed input the parsed
query returns the same results as the directly constructed query the syntax documents (required,
optional and excluded clauses, field scoping, phrases, boosts, fuzziness, numeric and date
comparisons)."

What is proved here is the *dispatch* half of the JSON round trip: `ParseQuery` recognises the
concrete type of a JSON object from which keys are present, through an ordered list of tests.  That
list is regenerated from /repo's `ParseQuery` on every run as the Lean function
`Gen.parseQueryDispatch`, and the keys each query struct emits are regenerated from its struct tags
(`Gen.queryStructTags`).  `dispatch_correct` says: for every query type of the family, for every
subset of its optional (`omitempty`) keys that a valid query can have, the first test that fires
selects that type (or the documented equivalent type).  Reordering two tests, adding a key to a
struct without excluding it in an earlier test, or dropping `omitempty` changes the generated file
and the kernel evaluation below fails.  Everything else of C17 — equal results after the JSON round
trip of random query trees and search requests, the query-string parser against directly built
queries, arbitrary bytes without panics, independence from the lexer pool's history — is checked by
the differential correspondence of `./check C17`.
-/
namespace Bleve.C17

/-- the rows of `Gen.queryStructTags` for query type `t`: (type, json key, omitempty, Go field type) -/
def tagsOf (t : String) : List (String × String × Bool × String) :=
  Gen.queryStructTags.filter (fun r => r.1 == t)

def mandatory (t : String) : List String := ((tagsOf t).filter (fun r => !r.2.2.1)).map (·.2.1)
def optional (t : String) : List String := ((tagsOf t).filter (fun r => r.2.2.1)).map (·.2.1)

def goType (t k : String) : String := (((tagsOf t).find? (fun r => r.2.1 == k)).map (·.2.2.2)).getD ""

def subsets : List String → List (List String)
  | [] => [[]]
  | x :: xs => let r := subsets xs; r ++ r.map (x :: ·)

/-- what `ParseQuery` answers for a query of type `t` whose JSON object has exactly `keys` -/
def dispatchOf (t : String) (keys : List String) : String :=
  Gen.parseQueryDispatch (fun k => keys.contains k)
    (fun k => keys.contains k && (goType t k == "*float64" || goType t k == "float64"))
    (fun k => keys.contains k && goType t k == "string")

/-- key sets a query that passes `Validate` can produce -/
def validKeys (t : String) (keys : List String) : Bool :=
  match t with
  | "NumericRangeQuery" | "TermRangeQuery" => keys.contains "min" || keys.contains "max"
  | "DateRangeQuery" => keys.contains "start" || keys.contains "end"
  | "BooleanQuery" => keys.contains "must" || keys.contains "should" || keys.contains "must_not" || keys.contains "filter"
  | _ => true

/-- the type the round trip is expected to come back as: itself, except that a date range comes
    back in its string form (same bounds) and a fuzzy query whose fuzziness is 0 (key omitted) comes
    back as the term query it is equivalent to -/
def expected (t : String) (keys : List String) : String :=
  match t with
  | "DateRangeQuery" => "DateRangeStringQuery"
  | "FuzzyQuery" => if keys.contains "fuzziness" then "FuzzyQuery" else "TermQuery"
  | _ => t

def family : List String :=
  ["TermQuery", "MatchQuery", "MatchPhraseQuery", "PhraseQuery", "FuzzyQuery", "PrefixQuery", "WildcardQuery",
   "RegexpQuery", "TermRangeQuery", "NumericRangeQuery", "DateRangeQuery", "BoolFieldQuery", "DocIDQuery",
   "ConjunctionQuery", "DisjunctionQuery", "BooleanQuery", "QueryStringQuery"]

def dispatchOK (t : String) : Bool :=
  !(tagsOf t).isEmpty &&
  (subsets (optional t)).all (fun s =>
    let keys := mandatory t ++ s
    !validKeys t keys || dispatchOf t keys == expected t keys)

/-- **Dispatch is correct for the whole family**, for every combination of optional keys. -/
theorem dispatch_correct : family.all dispatchOK = true := by
  -- a fixed table: evaluated by the kernel alone (plain `decide` would evaluate it in the elaborator
  -- first, the kernel then again)
  decide +kernel

/-- the two parameterless queries -/
theorem dispatch_match_all :
    Gen.parseQueryDispatch (fun k => k == "match_all") (fun _ => false) (fun _ => false) = "MatchAllQuery" := by decide
theorem dispatch_match_none :
    Gen.parseQueryDispatch (fun k => k == "match_none") (fun _ => false) (fun _ => false) = "MatchNoneQuery" := by decide

/-- a disjunction carries a numeric `min`; it must not be mistaken for a numeric range -/
example : dispatchOf "DisjunctionQuery" ["disjuncts", "min"] = "DisjunctionQuery" := by decide

end Bleve.C17
