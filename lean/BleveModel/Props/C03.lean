import BleveModel.Model.Durable
import BleveModel.Model.History
/-!
# C03 — Acknowledged batches survive a crash; every batch is all-or-nothing

"If the process dies at any instant while a disk-backed index is indexing, persisting, merging or
cleaning up, the index can be opened again and its contents equal the effect of a prefix of the
batches in submission order. That prefix contains every batch whose call had returned before the
crash (default safe-batch mode) or whose persisted callback had fired, and never contains part of a
batch. The same holds after a clean Close, and the reopened index accepts further writes correctly."

Model: `Model/Durable.lean`.  A snapshot of epoch `e` contains exactly the batches introduced at
epochs `≤ e` (Props/Snapshot.lean: every root is the replay of a prefix), so "the recovered prefix
contains every acknowledged batch" is `acked ≤ epoch of the recovered snapshot`.
Theorems: the invariant `Inv` (every file named by a committed snapshot exists complete; epochs in
root.bolt strictly descend; every acknowledged batch is covered by the newest committed snapshot) is
preserved by every step whose side condition `stepOK` holds and by a crash at any point, and under it
Open loads the newest committed snapshot — for every trace and every crash instant.
Tie (`./check C03`): (a) the durable events of the real persister, purger and merger (hooks under
the `verif` tag) are replayed through `stepOK` in Lean; (b) a child process is killed at every named
crash point and at random instants, files no committed snapshot names are garbled, the index is
reopened and what it holds is judged by the C04 monitor `History.check` (a whole-batch prefix that
covers everything acknowledged), then written to again.
**Partial**: fsync/rename/bbolt-commit atomicity are assumptions; the kill runs are validation.
-/
namespace Bleve

/-- A property that every accepted step preserves holds at the end of every accepted trace.  `run` is
    any function with the two equations of `Durable.run`; `Files.run` has them as well. -/
theorem run_induction {σ ε : Type} {ok : σ → ε → Bool} {step : σ → ε → σ} {run : σ → List ε → Option σ}
    (run_nil : ∀ s, run s [] = some s)
    (run_cons : ∀ s ev evs, run s (ev :: evs) = if ok s ev then run (step s ev) evs else none)
    {P : σ → Prop} {evs : List ε} {s s' : σ}
    (hstep : ∀ s, ∀ ev ∈ evs, P s → ok s ev = true → P (step s ev)) (hs : P s) (h : run s evs = some s') :
    P s' := by
  induction evs generalizing s with
  | nil => rw [run_nil] at h; cases h; exact hs
  | cons ev evs ih =>
    rw [run_cons] at h
    split at h
    · next hok =>
      exact ih (fun s e he => hstep s e (List.mem_cons_of_mem _ he)) (hstep s ev List.mem_cons_self hs hok) h
    · cases h

end Bleve

namespace Bleve.Durable

def Inv (d : D) : Prop :=
  (∀ r ∈ d.bolt, ∀ f ∈ r.files, f ∈ d.present) ∧
  d.bolt.Pairwise (fun a b => a.epoch > b.epoch) ∧
  d.acked ≤ newest d

theorem named_iff (d : D) (f : Name) : named d f = true ↔ ∃ r ∈ d.bolt, f ∈ r.files := by
  simp only [named, List.any_eq_true, List.contains_iff_mem]

theorem newest_ge {d : D} (h : d.bolt.Pairwise (fun a b => a.epoch > b.epoch)) :
    ∀ r ∈ d.bolt, r.epoch ≤ newest d := by
  rcases d with ⟨_ | ⟨x, xs⟩, _, _⟩
  · nofun
  · intro r hr
    rcases List.mem_cons.1 hr with rfl | hr
    · exact Nat.le_refl _
    · exact Nat.le_of_lt ((List.pairwise_cons.1 h).1 r hr)

/-- Deleting files keeps the invariant as long as every file a committed snapshot names stays: the
    purger's removals, a crash and the purger's fixpoint (C12) are all of this form. -/
theorem Inv.filter_present {d : D} (hi : Inv d) (p : Name → Bool) (hp : ∀ f, named d f = true → p f = true) :
    Inv { d with present := d.present.filter p } :=
  ⟨fun r hr f hf => List.mem_filter.2 ⟨hi.1 r hr f hf, hp f ((named_iff d f).2 ⟨r, hr, hf⟩)⟩, hi.2⟩

/-- **Every protocol step preserves the invariant.** -/
theorem step_inv (d : D) (ev : Ev) (hi : Inv d) (hok : stepOK d ev = true) : Inv (step d ev) := by
  obtain ⟨h1, h2, h3⟩ := hi
  cases ev with
  | writeFile f => exact ⟨fun r hr g hg => List.mem_cons_of_mem _ (h1 r hr g hg), h2, h3⟩
  | commit e fs =>
    simp only [stepOK, Bool.and_eq_true, Bool.or_eq_true, decide_eq_true_eq, List.all_eq_true,
      List.contains_iff_mem] at hok
    obtain ⟨hlt, hall⟩ := hok
    simp only [step]
    split
    · exact ⟨h1, h2, h3⟩
    · next hsame =>
      -- not the re-recording of the head: the new epoch is above everything in root.bolt
      have hlt : newest d < e := hlt.resolve_right hsame
      exact ⟨List.forall_mem_cons.2 ⟨hall, h1⟩,
        List.pairwise_cons.2 ⟨fun r hr => Nat.lt_of_le_of_lt (newest_ge h2 r hr) hlt, h2⟩,
        Nat.le_of_lt (Nat.lt_of_le_of_lt h3 hlt)⟩
  | ack e => exact ⟨h1, h2, Nat.max_le.2 ⟨h3, (of_decide_eq_true hok : e ≤ newest d)⟩⟩
  | boltRemove e =>
    refine ⟨fun r hr => h1 r (List.mem_filter.1 hr).1, h2.filter _, ?_⟩
    -- the newest snapshot is never the one removed, so it stays the head
    rcases d with ⟨_ | ⟨x, xs⟩, _, _⟩
    · exact h3
    · have hx : (x.epoch != e) = true := bne_iff_ne.2 fun h => of_decide_eq_true hok h.symm
      simpa [step, newest, hx] using h3
  | zapRemove f =>
    refine Inv.filter_present ⟨h1, h2, h3⟩ (· != f) fun g hg => ?_
    rw [bne_iff_ne]
    rintro rfl
    simp [stepOK, hg] at hok

/-- **A crash at any point preserves the invariant**: only files no committed snapshot names are lost. -/
theorem crash_inv (keep : Name → Bool) (d : D) (hi : Inv d) : Inv (crash keep d) :=
  hi.filter_present _ fun f h => by simp [h]

theorem run_inv {evs : List Ev} {d d' : D} (hi : Inv d) (h : run d evs = some d') : Inv d' :=
  run_induction (fun _ => rfl) (fun _ _ _ => rfl) (fun d ev _ => step_inv d ev) hi h

/-- under the invariant Open loads the newest committed snapshot -/
theorem recover_newest (d : D) (hi : Inv d) : recover d = d.bolt.head? := by
  unfold recover
  cases hb : d.bolt with
  | nil => rfl
  | cons x xs =>
    have hx : x ∈ d.bolt := hb ▸ List.mem_cons_self
    exact List.find?_cons_of_pos
      (List.all_eq_true.2 fun f hf => List.contains_iff_mem.2 (hi.1 x hx f hf))

theorem crash_safe_of_inv {d : D} (keep : Name → Bool) (hd : Inv d) :
    recover (crash keep d) = d.bolt.head? ∧ d.acked ≤ newest d ∧
    (d.acked > 0 → ∃ r, recover (crash keep d) = some r ∧ d.acked ≤ r.epoch) := by
  have hr : recover (crash keep d) = d.bolt.head? := recover_newest _ (crash_inv keep d hd)
  refine ⟨hr, hd.2.2, fun hpos => ?_⟩
  rcases d with ⟨_ | ⟨x, xs⟩, _, _⟩
  · exact absurd hpos (Nat.not_lt_of_le hd.2.2)
  · exact ⟨x, hr, hd.2.2⟩

/-- **Crash safety**: after any trace of protocol steps and a crash at its end (every prefix of a
    trace is a trace, so: at any instant), with arbitrary loss of unreferenced files, Open loads the
    newest committed snapshot, and that snapshot covers every acknowledged batch. -/
theorem crash_safe (evs : List Ev) (d0 d : D) (keep : Name → Bool) (hi : Inv d0)
    (hrun : run d0 evs = some d) :
    recover (crash keep d) = d.bolt.head? ∧ d.acked ≤ newest d ∧
    (d.acked > 0 → ∃ r, recover (crash keep d) = some r ∧ d.acked ≤ r.epoch) :=
  crash_safe_of_inv keep (run_inv hi hrun)

/-- acknowledgements only grow -/
theorem acked_mono (d : D) (ev : Ev) : d.acked ≤ (step d ev).acked := by
  cases ev with
  | commit e fs => simp only [step]; split <;> exact Nat.le_refl _
  | ack e => exact Nat.le_max_left _ _
  | _ => exact Nat.le_refl _

theorem mem_step_present {d : D} {ev : Ev} {g : Name} (hg : g ∈ d.present)
    (hne : ev ≠ .zapRemove g) : g ∈ (step d ev).present := by
  cases ev with
  | writeFile f => exact List.mem_cons_of_mem _ hg
  | commit e fs => simp only [step]; split <;> exact hg
  | zapRemove f => exact List.mem_filter.2 ⟨hg, bne_iff_ne.2 fun h => hne (h ▸ rfl)⟩
  | _ => exact hg

theorem inv_init : Inv {} := ⟨nofun, List.Pairwise.nil, Nat.le_refl 0⟩

/-! ## what goes wrong when a side condition is dropped (the monitor's rejections are real) -/

/-- acknowledging before the commit: a crash loses the acknowledged batch -/
example : let d : D := step {} (.ack 1)
    recover (crash (fun _ => true) d) = none ∧ d.acked = 1 := by decide
/-- committing a snapshot whose file is not on disk yet: after a crash Open falls back to older data -/
example : let d : D := step (step (step {} (.writeFile "1.zap")) (.commit 1 ["1.zap"])) (.commit 2 ["2.zap"])
    recover d = some ⟨1, ["1.zap"]⟩ := by decide
/-- removing a file a committed snapshot names: Open no longer loads that snapshot -/
example : let d : D := step (step (step {} (.writeFile "1.zap")) (.commit 1 ["1.zap"])) (.zapRemove "1.zap")
    recover d = none := by decide
/-- a good trace: write, commit, acknowledge, merge into a new file, commit, purge -/
example : (run {} [.writeFile "1.zap", .commit 1 ["1.zap"], .ack 1, .writeFile "2.zap", .commit 2 ["1.zap", "2.zap"],
    .ack 2, .writeFile "3.zap", .commit 4 ["3.zap"], .boltRemove 1, .boltRemove 2, .zapRemove "1.zap",
    .zapRemove "2.zap"]).map (fun d => (recover (crash (fun _ => false) d), d.acked)) = some (some ⟨4, ["3.zap"]⟩, 2) := by
  decide

end Bleve.Durable

namespace Bleve.History

/-- what the auxiliary-document monitor accepts, spelled out for one writer -/
theorem auxOK_single (p a d : Nat) :
    auxOK [p] [a] [d] = true ↔ (a = 0 ∨ a = p) ∧ (p ≤ d ∧ 0 < p → a = 0) := by
  simp [auxOK]
  show a = 0 ∨ a = p → ((d < p ∨ p = 0) ∨ a = 0 ↔ p ≤ d → 0 < p → a = 0)
  omega

example : auxOK [7, 3] [7, 0] [6, 3] = true := by decide
example : auxOK [7, 3] [7, 3] [6, 3] = false := by decide      -- the deletion after batch 3 was acknowledged, the document is back
example : auxOK [7, 3] [6, 0] [0, 0] = false := by decide      -- a version from another batch

end Bleve.History
