import BleveModel.Model.Geo
/-!
# C18 — Geo point queries match exactly the points inside the shape

"A distance, bounding-box or polygon query matches a document if and only if one of its indexed
points lies inside the circle, box or polygon, up to the stated resolution of the point encoding:
points clearly inside are always returned and points clearly outside never are, including boxes and
circles that cross the date line or contain a pole. The point encoding round-trips within its
resolution, and sorting by distance orders hits by true distance."

**Partial.**  Proved here: the integer layer of the point encoding — interleaving two 32-bit
coordinates and taking them apart again is the identity, for every pair of coordinates, and the
hash of a point determines its cell at every precision (so a point's indexed prefix terms are those
of the cells containing it).  The floating-point layer (scaling, haversine, rectangle construction
across the date line and the poles, polygon containment, the s2 plugin) cannot be carried by this
model; `./check C18` compares it end to end with an independent float oracle using a margin, with
and without the s2 plugin.
-/
namespace Bleve.Geo

/-- `interleave` written bit by bit: the lowest bit is `a`'s, the next one `b`'s -/
theorem interleave_succ (n a b : Nat) :
    interleave (n + 1) a b = a % 2 + 2 * (b % 2 + 2 * interleave n (a / 2) (b / 2)) := by
  rw [interleave, Nat.mul_add, ← Nat.mul_assoc, Nat.add_assoc]

theorem deinterleave_succ (n h : Nat) :
    deinterleave (n + 1) h = h % 2 + 2 * deinterleave n (h / 2 / 2) := by
  rw [deinterleave, Nat.div_div_eq_div_mul]

theorem bit_add_mod (x z : Nat) : (x % 2 + 2 * z) % 2 = x % 2 := by
  rw [Nat.add_mul_mod_self_left, Nat.mod_mod]

theorem bit_add_div (x z : Nat) : (x % 2 + 2 * z) / 2 = z := by
  rw [Nat.add_mul_div_left _ _ (by decide), Nat.div_eq_of_lt (Nat.mod_lt _ (by decide)), Nat.zero_add]

theorem interleave_lt (n : Nat) : ∀ a b, interleave n a b < 4 ^ n := by
  induction n with
  | zero => intro a b; simp [interleave]
  | succ n ih =>
    intro a b
    have := ih (a / 2) (b / 2)
    rw [interleave_succ]
    omega

/-- the even bits of the hash are the low `n` bits of the first coordinate -/
theorem deinterleave_interleave_mod (n : Nat) : ∀ a b, deinterleave n (interleave n a b) = a % 2 ^ n := by
  induction n with
  | zero => intro a b; rw [deinterleave, Nat.mod_one]
  | succ n ih =>
    intro a b
    rw [interleave_succ, deinterleave_succ, bit_add_mod, bit_add_div, bit_add_div, ih, Nat.pow_succ',
      Nat.mod_mul]

/-- the odd bits are the low `n` bits of the second coordinate (`MortonUnhashLat` uses
    `Deinterleave(hash >> 1)`) -/
theorem deinterleave_interleave_odd (n : Nat) : ∀ a b,
    deinterleave n (interleave n a b / 2) = b % 2 ^ n := by
  induction n with
  | zero => intro a b; rw [deinterleave, Nat.mod_one]
  | succ n ih =>
    intro a b
    rw [interleave_succ, bit_add_div, deinterleave_succ, bit_add_mod, bit_add_div, ih, Nat.pow_succ',
      Nat.mod_mul]

/-- **Round trip, longitude half**: the even bits give the first coordinate back -/
theorem deinterleave_interleave (n : Nat) : ∀ a b, a < 2 ^ n → deinterleave n (interleave n a b) = a := by
  intro a b h
  rw [deinterleave_interleave_mod, Nat.mod_eq_of_lt h]

theorem interleave_injective {n a b a' b' : Nat} (ha : a < 2 ^ n) (hb : b < 2 ^ n) (ha' : a' < 2 ^ n)
    (hb' : b' < 2 ^ n) (h : interleave n a b = interleave n a' b') : a = a' ∧ b = b' := by
  have ea := deinterleave_interleave_mod n a b
  have eb := deinterleave_interleave_odd n a b
  rw [h, deinterleave_interleave_mod, Nat.mod_eq_of_lt ha, Nat.mod_eq_of_lt ha'] at ea
  rw [h, deinterleave_interleave_odd, Nat.mod_eq_of_lt hb, Nat.mod_eq_of_lt hb'] at eb
  exact ⟨ea.symm, eb.symm⟩

/-- the encoding is injective on 32-bit coordinate pairs: different points, different hashes -/
theorem interleave_inj (a b a' b' : Nat) (ha : a < 2 ^ 32) (hb : b < 2 ^ 32) (ha' : a' < 2 ^ 32) (hb' : b' < 2 ^ 32)
    (h : interleave64 a b = interleave64 a' b') : a = a' ∧ b = b' :=
  interleave_injective ha hb ha' hb' h

/-- cells nest: the cell of a hash at a coarser precision is determined by its cell at a finer one -/
theorem cell_nest (hash s t : Nat) : cellOf (cellOf hash s) t = cellOf hash (s + t) := by
  unfold cellOf
  rw [Nat.div_div_eq_div_mul, ← Nat.pow_add]

/-- dropping one interleaved bit pair halves both coordinates: a cell at shift `2k` is the pair of
    coordinate prefixes -/
theorem cell_is_coordinate_prefix (n : Nat) (a b : Nat) :
    interleave (n + 1) a b / 4 = interleave n (a / 2) (b / 2) := by
  rw [interleave_succ, ← Nat.div_div_eq_div_mul _ 2 2, bit_add_div, bit_add_div]

example : interleave64 5 3 = 27 := by decide        -- 0b011011
example : deinterleave64 27 = 5 ∧ deinterleave64 (27 / 2) = 3 := by decide

end Bleve.Geo
