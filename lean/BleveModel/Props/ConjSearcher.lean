import BleveModel.Model.ConjSearcher
import BleveModel.Props.BoolSearcher
/-!
# The conjunction searcher keeps the searcher contract and yields the intersection of its clauses

For every behaviour of the clause searchers outside their contract (`w`), every state reachable from
`init` and every program of `Next` / `Advance` calls, the machine of `Model/ConjSearcher.lean` (the
leap-frog loop of `search_conjunction.go` with its `maxIDIdx` bookkeeping and its `continue OUTER`)
answers like the contract machine over `common` — the matches every clause still has.

`common` is an ascending list, so it is handled through its members (`mem_common`, `Asc.ext`): the
loop only ever moves clauses up to some clause's cursor, which no common match lies below (`common_rel`).
`Advance` makes every clause skip to the target, and `Next` on a match is every clause skipping past it
(`common_map_skip`).
-/
namespace Bleve.ConjSearcher
open Bleve.BoolSearcher (Ch Weird Op Asc Pops advBehind advBehind_all advBehind_ok fresh_next_all fresh_next_ok
  runSpec_of_pops)

/-! ## lists of children related position by position -/

inductive Rel (R : Ch → Ch → Prop) : List Ch → List Ch → Prop
  | nil : Rel R [] []
  | cons {a b : Ch} {as bs : List Ch} : R a b → Rel R as bs → Rel R (a :: as) (b :: bs)

theorem rel_imp {R S : Ch → Ch → Prop} (himp : ∀ a b, R a b → S a b) {as bs : List Ch} (h : Rel R as bs) :
    Rel S as bs := by
  induction h with
  | nil => exact .nil
  | cons hr _ ih => exact .cons (himp _ _ hr) ih

theorem rel_map {R : Ch → Ch → Prop} {f : Ch → Ch} {chs : List Ch} (h : ∀ c ∈ chs, R c (f c)) :
    Rel R chs (chs.map f) := by
  induction chs with
  | nil => exact .nil
  | cons a as ih => exact .cons (h a (.head _)) (ih fun c hc => h c (.tail _ hc))

theorem rel_mapIdx {R : Ch → Ch → Prop} {chs : List Ch} {f : Nat → Ch → Ch}
    (h : ∀ x c, chs[x]? = some c → R c (f x c)) : Rel R chs (chs.mapIdx f) := by
  induction chs generalizing f with
  | nil => exact Rel.nil
  | cons a as ih =>
    rw [List.mapIdx_cons]
    exact Rel.cons (h 0 a rfl) (ih fun x c hx => h (x + 1) c hx)

theorem rel_length {R : Ch → Ch → Prop} {as bs : List Ch} (h : Rel R as bs) : bs.length = as.length := by
  induction h with
  | nil => rfl
  | cons _ _ ih => simp [ih]

theorem rel_getElem {R : Ch → Ch → Prop} {as bs : List Ch} (h : Rel R as bs) :
    ∀ (j : Nat) (a : Ch), as[j]? = some a → ∃ b, bs[j]? = some b ∧ R a b := by
  induction h with
  | nil => intro j a hj; cases hj
  | cons hr _ ih =>
    intro j a hj
    cases j with
    | zero => exact ⟨_, rfl, Option.some.inj hj ▸ hr⟩
    | succ k => exact ih k a hj

def AllOk (chs : List Ch) : Prop := ∀ c ∈ chs, c.ok

/-- a child before and after possibly being advanced to `t`: it gains no match, and loses none at or
    after `t` -/
structure Shrunk (t : Nat) (c c' : Ch) : Prop where
  ok : c'.ok
  sub : c'.all.Sublist c.all
  keeps : ∀ d ∈ c.all, t ≤ d → d ∈ c'.all

theorem shrunk_refl (t : Nat) {c : Ch} (h : c.ok) : Shrunk t c c :=
  ⟨h, List.Sublist.refl _, fun _ hd _ => hd⟩

theorem shrunk_of_all {t : Nat} {c c' : Ch} (hc : c.ok) (hc' : c'.ok) (h : c'.all = c.all.dropWhile (· < t)) :
    Shrunk t c c' :=
  ⟨hc', h ▸ List.dropWhile_sublist _, fun _ hd htd => h ▸ (Asc.mem_dropWhile hc.1).2 ⟨hd, htd⟩⟩

theorem rel_allOk {t : Nat} {as bs : List Ch} (h : Rel (Shrunk t) as bs) : AllOk bs := by
  induction h with
  | nil => intro c hc; cases hc
  | cons hr _ ih => exact List.forall_mem_cons.2 ⟨hr.ok, ih⟩

theorem size_rel_le {t : Nat} {as bs : List Ch} (h : Rel (Shrunk t) as bs) : size bs ≤ size as := by
  induction h with
  | nil => exact Nat.le_refl _
  | cons hr _ ih => exact Nat.add_le_add hr.sub.length_le ih

theorem size_rel_lt {t : Nat} {as bs : List Ch} (h : Rel (Shrunk t) as bs) :
    ∀ (j : Nat) (a b : Ch), as[j]? = some a → bs[j]? = some b → b.all.length < a.all.length →
      size bs < size as := by
  induction h with
  | nil => intro j a b hj; cases hj
  | @cons a0 b0 as' bs' hr hrest ih =>
    intro j a b ha hb hlt
    cases j with
    | zero =>
      cases ha
      cases hb
      exact Nat.add_lt_add_of_lt_of_le hlt (size_rel_le hrest)
    | succ k => exact Nat.add_lt_add_of_le_of_lt hr.sub.length_le (ih k a b ha hb hlt)

theorem allOk_map_next {chs : List Ch} (hok : AllOk chs) : AllOk (chs.map Ch.next) :=
  List.forall_mem_map.2 fun c hc => Ch.next_ok (hok c hc).asc_rem

/-! ## what is common -/

theorem currAt_of_getElem {chs : List Ch} {j : Nat} {c : Ch} (h : chs[j]? = some c) : currAt chs j = c.curr := by
  unfold currAt
  rw [h]
  rfl

theorem currAt_eq_some {chs : List Ch} {j v : Nat} :
    currAt chs j = some v ↔ ∃ c, chs[j]? = some c ∧ c.curr = some v :=
  Option.bind_eq_some_iff

theorem mem_common {chs : List Ch} {d : Nat} : d ∈ common chs ↔ chs ≠ [] ∧ ∀ c ∈ chs, d ∈ c.all := by
  cases chs with
  | nil => simp [common]
  | cons c cs =>
    simp only [common, isCommon, List.mem_filter, List.all_eq_true, List.contains_iff_mem, ne_eq,
      List.cons_ne_nil, not_false_eq_true, true_and]
    exact ⟨fun h => h.2, fun h => ⟨h c List.mem_cons_self, h⟩⟩

theorem common_asc {chs : List Ch} (hok : AllOk chs) : Asc (common chs) := by
  cases chs with
  | nil => exact List.Pairwise.nil
  | cons c cs => exact List.Pairwise.filter _ (hok c List.mem_cons_self).1

theorem common_ge_curr {chs : List Ch} (hok : AllOk chs) {d : Nat} (hd : d ∈ common chs)
    {j v : Nat} (hv : currAt chs j = some v) : v ≤ d := by
  obtain ⟨c, hc, hcv⟩ := currAt_eq_some.1 hv
  have hm := List.mem_of_getElem? hc
  exact Asc.head?_le (hok c hm).1 ((hok c hm).curr_eq.symm.trans hcv) ((mem_common.1 hd).2 c hm)

theorem common_nil_of_none {chs : List Ch} (hok : AllOk chs) {j : Nat} (hj : j < chs.length)
    (hn : currAt chs j = none) : common chs = [] := by
  have hc := List.getElem?_eq_getElem hj
  have hm := List.mem_of_getElem? hc
  refine List.eq_nil_iff_forall_not_mem.2 fun d hd => ?_
  have := (mem_common.1 hd).2 _ hm
  rw [(hok _ hm).all_eq_nil ((currAt_of_getElem hc).symm.trans hn)] at this
  cases this

/-- after the move every clause holds `d` only if every clause did before, and still does if `t ≤ d` -/
theorem rel_forall_mem {t d : Nat} {as bs : List Ch} (h : Rel (Shrunk t) as bs) :
    ((∀ b ∈ bs, d ∈ b.all) → ∀ a ∈ as, d ∈ a.all) ∧
    (t ≤ d → (∀ a ∈ as, d ∈ a.all) → ∀ b ∈ bs, d ∈ b.all) := by
  induction h with
  | nil => exact ⟨fun h => h, fun _ h => h⟩
  | cons hr _ ih =>
    simp only [List.forall_mem_cons]
    exact ⟨fun hb => ⟨hr.sub.subset hb.1, ih.1 hb.2⟩, fun htd ha => ⟨hr.keeps d ha.1 htd, ih.2 htd ha.2⟩⟩

/-- advancing clauses to a target that no common match lies below loses nothing -/
theorem common_rel {t : Nat} {as bs : List Ch} (h : Rel (Shrunk t) as bs) (hok : AllOk as)
    {j : Nat} (ht : currAt as j = some t) : common bs = common as := by
  refine Asc.ext (common_asc (rel_allOk h)) (common_asc hok) fun d => ?_
  have hne : bs ≠ [] ↔ as ≠ [] := by cases h <;> simp
  have hall := rel_forall_mem (d := d) h
  rw [mem_common, mem_common, hne]
  exact ⟨fun hb => ⟨hb.1, hall.1 hb.2⟩, fun ha => ⟨ha.1, hall.2 (common_ge_curr hok (mem_common.2 ha) ht) ha.2⟩⟩

theorem common_map_skip {f : Ch → Ch} {t : Nat} {chs : List Ch} (hok : AllOk chs)
    (hf : ∀ c ∈ chs, (f c).all = c.all.dropWhile (· < t)) :
    common (chs.map f) = (common chs).dropWhile (· < t) := by
  cases chs with
  | nil => rfl
  | cons c cs =>
    have hc := (hok c List.mem_cons_self).1
    -- `common` filters the matches of the first clause, and filtering commutes with skipping
    rw [List.map_cons, common, common, hf c List.mem_cons_self, ← List.map_cons, ← Asc.filter_dropWhile hc]
    -- at or after the target a clause holds `d` exactly when it did before
    refine List.filter_congr fun d hd => ?_
    have htd := ((Asc.mem_dropWhile hc).1 hd).2
    unfold isCommon
    rw [List.all_map, Bool.eq_iff_iff, List.all_eq_true, List.all_eq_true]
    exact forall₂_congr fun c' hc' => by
      rw [Function.comp_apply, hf c' hc', Asc.contains_dropWhile (hok c' hc').1 htd]

theorem common_all_on {chs : List Ch} (hok : AllOk chs) {m : Nat} (hne : 0 < chs.length)
    (hall : ∀ x, x < chs.length → currAt chs x = some m) : common chs = m :: common (chs.map Ch.next) := by
  have hon : ∀ c ∈ chs, c.curr = some m := fun c hc => by
    obtain ⟨x, hx⟩ := List.mem_iff_getElem?.1 hc
    exact (currAt_of_getElem hx).symm.trans (hall x (List.getElem?_eq_some_iff.1 hx).1)
  -- moving on from `m` is skipping to `m + 1`
  rw [common_map_skip (t := m + 1) hok fun c hc => (hok c hc).next_all_of_curr (hon c hc)]
  exact (Asc.dropWhile_succ_of_mem (common_asc hok) (fun d hd => common_ge_curr hok hd (hall 0 hne))
    (mem_common.2 ⟨List.ne_nil_of_length_pos hne, fun c hc =>
      List.mem_of_mem_head? ((hok c hc).curr_eq.symm.trans (hon c hc))⟩)).symm

/-! ## advancing clauses -/

/-- `advAt` (`p x` is `x = i`) and `advPrefix` (`p x` is `x < i`), applied to clauses whose cursors are
    behind the target -/
theorem rel_advIf (w : Weird) {t : Nat} {p : Nat → Prop} [DecidablePred p] {chs : List Ch} (hok : AllOk chs)
    (hb : ∀ x, p x → ∀ v, currAt chs x = some v → v < t) :
    Rel (Shrunk t) chs (chs.mapIdx fun x c => if p x then c.adv w t else c) := by
  refine rel_mapIdx fun x c hx => ?_
  have hc := hok c (List.mem_of_getElem? hx)
  by_cases hp : p x
  · have hbc : ∀ v ∈ c.curr, v < t := fun v hv => hb x hp v ((currAt_of_getElem hx).trans hv)
    rw [if_pos hp]
    exact shrunk_of_all hc (Ch.adv_ok w t hc hbc) (Ch.adv_all w t c hbc)
  · rw [if_neg hp]
    exact shrunk_refl t hc

theorem currAt_advIf_of_not (w : Weird) (t : Nat) (p : Nat → Prop) [DecidablePred p] (chs : List Ch) {x : Nat}
    (hx : ¬p x) : currAt (chs.mapIdx fun x c => if p x then c.adv w t else c) x = currAt chs x := by
  simp only [currAt, List.getElem?_mapIdx, if_neg hx, Option.map_id']

/-- a clause that is moved loses at least the match its cursor was on -/
theorem size_advIf_lt (w : Weird) {t : Nat} {p : Nat → Prop} [DecidablePred p] {chs : List Ch} (hok : AllOk chs)
    (hb : ∀ x, p x → ∀ v, currAt chs x = some v → v < t) {j v : Nat} (hj : p j) (hv : currAt chs j = some v) :
    size (chs.mapIdx fun x c => if p x then c.adv w t else c) < size chs := by
  obtain ⟨c, hc, hcv⟩ := currAt_eq_some.1 hv
  have hvt := hb j hj v hv
  refine size_rel_lt (rel_advIf w hok hb) j c (c.adv w t) hc
    (by simp only [List.getElem?_mapIdx, hc, if_pos hj, Option.map_some]) ?_
  rw [Ch.adv_all w t c (by simpa [hcv] using hvt), Ch.all_of_curr_some hcv,
    List.dropWhile_cons_of_pos (by simpa using hvt)]
  exact Nat.lt_succ_of_le (List.dropWhile_sublist _).length_le

/-! ## the inner loop -/

/-- `chs` is what the inner loop has made of the clauses `chs₀` it started on; advancing clauses up to
    some clause's cursor keeps this (`Moved.step`) -/
structure Moved (chs₀ chs : List Ch) : Prop where
  ok : AllOk chs
  length : chs.length = chs₀.length
  common : common chs = common chs₀
  size : size chs ≤ size chs₀

theorem Moved.step {chs₀ chs chs' : List Ch} (hm : Moved chs₀ chs) {t j : Nat} (h : Rel (Shrunk t) chs chs')
    (ht : currAt chs j = some t) : Moved chs₀ chs' :=
  ⟨rel_allOk h, (rel_length h).trans hm.length, (common_rel h hm.ok ht).trans hm.common,
    Nat.le_trans (size_rel_le h) hm.size⟩

/-- what the inner loop, started on the clauses `chs₀`, hands back.  The outer loop restarts with
    `2 * size chs + min maxIdx 1` smaller: either clause 0 has been advanced (the size drops), or the
    maximum has passed to clause 0 from a later clause and nothing has grown. -/
def InnerPost (maxID maxIdx : Nat) (chs₀ : List Ch) : Inner → Prop
  | .matched chs => Moved chs₀ chs ∧ ∀ x, x < chs.length → currAt chs x = some maxID
  | .exhausted chs => Moved chs₀ chs ∧ ∃ x, x < chs.length ∧ currAt chs x = none
  | .restart chs mi => Moved chs₀ chs ∧ mi < chs.length ∧
      2 * size chs + min mi 1 < 2 * size chs₀ + min maxIdx 1

/-- Every step either goes on to the next clause (`i` rises) or advances clause `i` (the size drops), so
    `chs.length - i + size chs` steps are enough: that is `hfuel`, written without subtraction. -/
theorem inner_spec (w : Weird) {maxID maxIdx : Nat} {chs₀ : List Ch} (fuel i : Nat) (chs : List Ch)
    (hm : Moved chs₀ chs) (hmax : currAt chs maxIdx = some maxID)
    (hinv : ∀ x, x < i → currAt chs x = some maxID) (hil : i ≤ chs.length)
    (hfuel : chs.length + size chs < fuel + i) :
    InnerPost maxID maxIdx chs₀ (inner w maxID maxIdx fuel i chs) := by
  fun_induction inner w maxID maxIdx fuel i chs with
  | case1 => omega  -- out of fuel: excluded by `hfuel` and `hil`
  | case2 fuel i chs hdone =>
    -- past the last clause
    exact ⟨hm, fun x hx => hinv x (Nat.lt_of_lt_of_le hx hdone)⟩
  | case3 fuel i chs hi hnone =>
    -- clause `i` has no match left
    exact ⟨hm, i, Nat.lt_of_not_le hi, hnone⟩
  | case4 fuel chs v hi _ ih =>
    -- the clause holding the maximum: on to the next clause
    exact ih hm hmax (fun x hx => (Nat.lt_succ_iff_lt_or_eq.1 hx).elim (hinv x) (· ▸ hmax))
      (Nat.lt_of_not_le hi) (Nat.add_right_comm fuel 1 _ ▸ hfuel)
  | case5 fuel i chs hi _ hv ih =>
    -- a clause on the maximum: on to the next clause
    exact ih hm hmax (fun x hx => (Nat.lt_succ_iff_lt_or_eq.1 hx).elim (hinv x) (· ▸ hv))
      (Nat.lt_of_not_le hi) (Nat.add_right_comm fuel 1 _ ▸ hfuel)
  | case6 fuel i chs hi v hv hne _ hgt =>
    -- a new, larger maximum: the clauses before `i` sat on the old one and are moved up
    have hb : ∀ x, x < i → ∀ u, currAt chs x = some u → u < v := fun x hx u hu =>
      Option.some.inj ((hinv x hx).symm.trans hu) ▸ hgt
    have hrel : Rel (Shrunk v) chs (advPrefix w v i chs) := rel_advIf w hm.ok hb
    have hm' := hm.step hrel hv
    refine ⟨hm', (rel_length hrel).symm ▸ Nat.lt_of_not_le hi, ?_⟩
    cases i with
    | zero =>
      -- the maximum moves to clause 0 from a later clause
      rw [Nat.min_eq_right (Nat.pos_of_ne_zero (Ne.symm hne))]
      exact Nat.lt_succ_of_le (Nat.mul_le_mul_left 2 hm'.size)
    | succ k =>
      -- clause 0 is among those moved: the size drops
      have hlt : size (advPrefix w v (k + 1) chs) < size chs :=
        size_advIf_lt w hm.ok hb (Nat.succ_pos k) (hinv 0 (Nat.succ_pos k))
      calc 2 * size (advPrefix w v (k + 1) chs) + min (k + 1) 1
        _ = 2 * size (advPrefix w v (k + 1) chs) + 1 := by rw [Nat.min_eq_right (Nat.succ_pos k)]
        _ < 2 * (size (advPrefix w v (k + 1) chs) + 1) := Nat.lt_succ_self _
        _ ≤ 2 * size chs₀ := Nat.mul_le_mul_left 2 (Nat.le_trans hlt hm.size)
        _ ≤ 2 * size chs₀ + min maxIdx 1 := Nat.le_add_right _ _
  | case7 fuel i chs hi v hv hne hvne hgt ih =>
    -- clause `i` is behind the maximum: it is advanced and looked at again
    have hb : ∀ x, x = i → ∀ u, currAt chs x = some u → u < maxID := fun x hx u hu =>
      Option.some.inj ((hx ▸ hv).symm.trans hu) ▸ Nat.lt_of_le_of_ne (Nat.le_of_not_lt hgt) hvne
    have hrel : Rel (Shrunk maxID) chs (advAt w maxID i chs) := rel_advIf w hm.ok hb
    have hlt : size (advAt w maxID i chs) < size chs := size_advIf_lt w hm.ok hb rfl hv
    have hcurr : ∀ {x}, x ≠ i → currAt (advAt w maxID i chs) x = currAt chs x :=
      currAt_advIf_of_not w maxID (· = i) chs
    have hlen := rel_length hrel
    exact ih (hm.step hrel hmax) ((hcurr (Ne.symm hne)).trans hmax)
      (fun x hx => (hcurr (Nat.ne_of_lt hx)).trans (hinv x hx)) (hlen ▸ hil) (by omega)

/-- on `continue OUTER` the clause named holds a cursor, beyond the old maximum -/
theorem inner_restart_curr (w : Weird) (maxID maxIdx fuel i : Nat) (chs : List Ch) {chs' : List Ch} {mi : Nat}
    (h : inner w maxID maxIdx fuel i chs = .restart chs' mi) : ∃ v, maxID < v ∧ currAt chs' mi = some v := by
  fun_induction inner w maxID maxIdx fuel i chs with
  | case1 | case2 | case3 => cases h  -- out of fuel, matched, exhausted: no restart
  | case4 _ _ _ _ _ ih => exact ih h
  | case5 _ _ _ _ _ _ ih => exact ih h
  | case6 fuel i chs hi v hv hne _ hgt =>  -- the restart itself: clause `i` is not among those moved
    obtain ⟨h1, h2⟩ := Inner.restart.inj h
    rw [← h1, ← h2]
    exact ⟨v, hgt, (currAt_advIf_of_not w v (· < i) chs (Nat.lt_irrefl i)).trans hv⟩
  | case7 _ _ _ _ _ _ _ _ _ ih => exact ih h

theorem inner_start (w : Weird) {chs : List Ch} (hok : AllOk chs) {maxID maxIdx : Nat}
    (hmax : currAt chs maxIdx = some maxID) :
    InnerPost maxID maxIdx chs (inner w maxID maxIdx (chs.length + size chs + 1) 0 chs) :=
  inner_spec w _ 0 chs ⟨hok, rfl, rfl, Nat.le_refl _⟩ hmax
    (fun x hx => absurd hx (Nat.not_lt_zero x)) (Nat.zero_le _) (Nat.lt_succ_self _)

/-! ## the outer loop, `Next` and `Advance` -/

structure Inv (st : St) : Prop where
  ok : AllOk st.chs
  idx : st.maxIdx < st.chs.length ∨ st.chs = []

theorem nextLoop_spec (w : Weird) (fuel : Nat) (st : St) (hi : Inv st)
    (hfuel : 2 * size st.chs + min st.maxIdx 1 < fuel) :
    Pops Inv (common ·.chs) (nextLoop w fuel st) (common st.chs) := by
  fun_induction nextLoop w fuel st with
  | case1 => exact absurd hfuel (Nat.not_lt_zero _)  -- out of fuel
  | case2 fuel st hlen =>
    -- `maxIdx` is out of range: there are no clauses
    have hnil : common st.chs = [] := by
      rw [hi.idx.resolve_left (Nat.not_lt.2 hlen)]
      rfl
    exact .none hi hnil hnil
  | case3 fuel st hlen hmax =>
    -- the clause `maxIdx` has no match left
    have hnil := common_nil_of_none hi.ok (Nat.lt_of_not_le hlen) hmax
    exact .none hi hnil hnil
  | case4 fuel st hlen maxID hmax chs' hin =>
    -- the inner loop ends with every cursor on `maxID`: a match, and every clause moves on
    obtain ⟨hm, hon⟩ := hin ▸ inner_start w hi.ok hmax
    have hidx : st.maxIdx < chs'.length := hm.length.symm ▸ Nat.lt_of_not_le hlen
    exact .some ⟨allOk_map_next hm.ok, Or.inl ((List.length_map Ch.next).symm ▸ hidx)⟩
      (hm.common ▸ common_all_on hm.ok (Nat.zero_lt_of_lt hidx) hon)
  | case5 fuel st hlen maxID hmax chs' hin =>
    -- the inner loop ran into an exhausted clause
    obtain ⟨hm, x, hx, hxn⟩ := hin ▸ inner_start w hi.ok hmax
    have hnil := common_nil_of_none hm.ok hx hxn
    exact .none ⟨hm.ok, Or.inl (hm.length.symm ▸ Nat.lt_of_not_le hlen)⟩ hnil (hm.common.symm.trans hnil)
  | case6 fuel st hlen maxID hmax chs' mi hin ih =>
    -- `continue OUTER` with the larger maximum held by clause `mi`
    obtain ⟨hm, hmi, hsize⟩ := hin ▸ inner_start w hi.ok hmax
    rw [← hm.common]
    exact ih ⟨hm.ok, Or.inl hmi⟩ (Nat.lt_of_lt_of_le hsize (Nat.le_of_lt_succ hfuel))

theorem next_spec (w : Weird) (st : St) (hi : Inv st) : Pops Inv (common ·.chs) (next w st) (common st.chs) :=
  nextLoop_spec w _ st hi (Nat.add_lt_add_left (Nat.lt_succ_of_le (Nat.min_le_right _ _)) _)

theorem advance_spec (w : Weird) (t : Nat) (st : St) (hi : Inv st) :
    Pops Inv (common ·.chs) (advance w t st) ((common st.chs).dropWhile (· < t)) := by
  have hok' : AllOk (st.chs.map (advBehind w t)) :=
    List.forall_mem_map.2 fun c hc => advBehind_ok w t (hi.ok c hc)
  rw [← common_map_skip hi.ok fun c _ => advBehind_all w t c]
  exact next_spec w _ ⟨hok', by simpa using hi.idx⟩

/-- **Refinement**: for every behaviour of the clause searchers outside their contract, every reachable
    state and every program of `Next` and `Advance` calls, the conjunction searcher answers exactly like
    the contract machine over the matches every clause still has. -/
theorem run_refines (w : Weird) : ∀ (ops : List Op) (st : St), Inv st →
    runImpl w st ops = Bleve.BoolSearcher.runSpec (common st.chs) ops :=
  runSpec_of_pops (fun _ => rfl) (fun _ _ => rfl) (fun _ _ _ => rfl) (next_spec w) (advance_spec w)

/-! ## from the query's clauses -/

theorem init_inv (clauses : List (List Nat)) (h : ∀ l ∈ clauses, Asc l) : Inv (init clauses) := by
  refine ⟨List.forall_mem_map.2 fun l hl => fresh_next_ok (h l hl), ?_⟩
  cases clauses with
  | nil => exact Or.inr rfl
  | cons l ls => exact Or.inl (Nat.succ_pos _)

theorem common_init (clauses : List (List Nat)) : common (init clauses).chs = conjDen clauses := by
  cases clauses with
  | nil => rfl
  | cons l ls =>
    simp only [init, List.map_cons, common, fresh_next_all]
    refine List.filter_congr fun d hd => ?_
    simp [isCommon, fresh_next_all, hd, Function.comp_def]

/-- **The conjunction searcher is correct**: built over clauses whose searchers keep the contract, for
    every program of `Next` and `Advance` calls and whatever the clause searchers do outside their
    contract, it answers like the contract machine over the intersection of the clauses' matches. -/
theorem conj_searcher_correct (w : Weird) (clauses : List (List Nat)) (h : ∀ l ∈ clauses, Asc l)
    (ops : List Op) :
    runImpl w (init clauses) ops = Bleve.BoolSearcher.runSpec (conjDen clauses) ops := by
  rw [run_refines w ops _ (init_inv clauses h), common_init]

theorem conjDen_asc (clauses : List (List Nat)) (h : ∀ l ∈ clauses, Asc l) : Asc (conjDen clauses) := by
  cases clauses with
  | nil => exact List.Pairwise.nil
  | cons l ls => exact List.Pairwise.sublist List.filter_sublist (h l List.mem_cons_self)

example : runImpl (fun _ c => c) (init [[1, 3, 5, 8, 9], [3, 5, 9], [0, 3, 8, 9]]) [.next, .adv 4, .next]
    = [some 3, some 9, none] := by decide
example : runImpl (fun _ c => c.next) (init [[1, 3, 5, 8, 9], [3, 5, 9], [0, 3, 8, 9]]) [.next, .adv 4, .next]
    = [some 3, some 9, none] := by decide

end Bleve.ConjSearcher
