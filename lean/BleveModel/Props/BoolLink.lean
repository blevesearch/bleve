import BleveModel.Props.C02
import BleveModel.Props.C08
import BleveModel.Props.BoolSearcher
import BleveModel.Props.ConjSearcher
import BleveModel.Props.DisjSearcher
/-!
# From the query's meaning to the boolean, conjunction and disjunction searchers (C02 ⟷ C08)

`Query.den` is the documented meaning of a query over a corpus; `BoolSearcher.boolDen` is what the
operational model of the boolean searcher yields from the match lists of its clauses.  For a boolean
query without filter and with at least one clause the two coincide (`den_bool`), so
`bool_searcher_correct` says: the boolean searcher, built over clause searchers that keep the
contract, enumerates exactly the documents the query means, under every program of Next and Advance
calls.  The same for a conjunction of at least one clause (`den_conj`) and for a disjunction with a
minimum (`den_disj`).
-/
namespace Bleve.Query
open Bleve.BoolSearcher (boolDen)

theorem eq_of_iid_eq {docs : List Doc} (hinj : docs.Pairwise (fun a b => a.iid ≠ b.iid)) {x y : Doc}
    (hx : x ∈ docs) (hy : y ∈ docs) (h : x.iid = y.iid) : x = y :=
  List.Pairwise.forall_of_forall_of_flip (R := fun a b => a.iid = b.iid → a = b) (fun _ _ _ => rfl)
    (hinj.imp fun hne e => absurd e hne) (hinj.imp fun hne e => absurd e.symm hne) hx hy h

theorem iid_mem_den {docs : List Doc} (hinj : docs.Pairwise (fun a b => a.iid ≠ b.iid)) (q : Q) {d : Doc}
    (hd : d ∈ docs) : d.iid ∈ den q docs ↔ eval q d = true := by
  rw [den_exact]
  exact ⟨fun ⟨x, hx, he, hi⟩ => eq_of_iid_eq hinj hx hd hi ▸ he, fun he => ⟨d, hd, he, rfl⟩⟩

theorem contains_den {docs : List Doc} (hinj : docs.Pairwise (fun a b => a.iid ≠ b.iid)) (q : Q) {d : Doc}
    (hd : d ∈ docs) : (den q docs).contains d.iid = eval q d := by
  rw [Bool.eq_iff_iff, List.contains_iff_mem, iid_mem_den hinj q hd]

theorem boolDen_den {docs : List Doc} (hinj : docs.Pairwise (fun a b => a.iid ≠ b.iid)) (m s n : Option Q)
    (min0 : Bool) :
    boolDen (m.map (den · docs)) (s.map (den · docs)) (n.map (den · docs)) min0 =
      (docs.filter fun d => (m.or s).any (eval · d) &&
        (if m.isSome && s.isSome && !min0 then s.any (eval · d) else true) && !n.any (eval · d)).map (·.iid) := by
  have hc : ∀ (o : Option Q) (d : Doc), d ∈ docs →
      ((o.map (den · docs)).getD []).contains d.iid = o.any (eval · d) := by
    intro o d hd
    cases o with
    | none => rfl
    | some q => exact contains_den hinj q hd
  have hcand : ((m.map (den · docs)).or (s.map (den · docs))).getD [] =
      (docs.filter fun d => (m.or s).any (eval · d)).map (·.iid) := by
    cases m <;> cases s <;> simp [den]
  unfold boolDen
  rw [hcand, List.filter_map, List.filter_filter]
  congr 1
  refine List.filter_congr fun d hd => ?_
  -- the same three tests on both sides, in another order
  rw [Function.comp_apply, hc n d hd, hc s d hd, Option.isSome_map, Option.isSome_map, Bool.and_comm,
    Bool.and_comm (!_), ← Bool.and_assoc]

theorem den_all (docs : List Doc) : den .all docs = docs.map (·.iid) := by
  unfold den
  rw [List.filter_eq_self.2 fun d _ => eval_all d]

theorem boolParts_eq (m s n : Option Q) (docs : List Doc) :
    boolParts m s n docs = ((if m.isNone && s.isNone then some Q.all else m).map (den · docs),
      s.map (den · docs), n.map (den · docs), s.all shouldMin0) := by
  cases m <;> cases s <;> simp [boolParts, den_all]

/-- **The meaning of a boolean query is what the boolean searcher is built to enumerate.** -/
theorem den_bool (m s n : Option Q) (docs : List Doc)
    (hinj : docs.Pairwise (fun a b => a.iid ≠ b.iid))
    (hany : (m.isSome || s.isSome || n.isSome) = true) :
    den (.bool m s n Option.none) docs =
      boolDen (boolParts m s n docs).1 (boolParts m s n docs).2.1 (boolParts m s n docs).2.2.1
        (boolParts m s n docs).2.2.2 := by
  rw [boolParts_eq, boolDen_den hinj]
  unfold den
  congr 1
  refine List.filter_congr fun d _ => ?_
  rw [eval_bool]
  cases m <;> cases s
  · -- neither must nor should: the searcher gets a match-all must clause, and there is a must-not clause
    simp [eval_all, show n.isSome = true from hany]
  all_goals simp

theorem asc_den {docs : List Doc} (hasc : docs.Pairwise (fun a b => a.iid < b.iid)) (q : Q) :
    Bleve.BoolSearcher.Asc (den q docs) :=
  den_asc q docs (List.pairwise_map.2 hasc)

/-- **End to end for the boolean query**: over a corpus listed in ascending internal-id order, the
    boolean searcher built from the clause searchers' match lists answers every program of Next and
    Advance calls like the contract machine over the *meaning* of the query, whatever the clause
    searchers do outside their contract. -/
theorem bool_query_searcher_correct (w : Bleve.BoolSearcher.Weird) (m s n : Option Q) (docs : List Doc)
    (hasc : docs.Pairwise (fun a b => a.iid < b.iid))
    (hany : (m.isSome || s.isSome || n.isSome) = true) (ops : List Bleve.BoolSearcher.Op) :
    Bleve.BoolSearcher.runImpl w
      (Bleve.BoolSearcher.init (boolParts m s n docs).1 (boolParts m s n docs).2.1 (boolParts m s n docs).2.2.1
        (boolParts m s n docs).2.2.2) ops =
    Bleve.BoolSearcher.runSpec (den (.bool m s n Option.none) docs) ops := by
  have hopt : ∀ o : Option Q, Bleve.BoolSearcher.AscOpt (o.map (den · docs)) := by
    intro o
    cases o with
    | none => trivial
    | some q => exact asc_den hasc q
  rw [den_bool m s n docs (hasc.imp Nat.ne_of_lt) hany, boolParts_eq]
  exact Bleve.BoolSearcher.bool_searcher_correct w _ _ _ _ (hopt _) (hopt _) (hopt _) ops

/-- **The meaning of a conjunction is the intersection the conjunction searcher enumerates.** -/
theorem den_conj (q : Q) (qs : List Q) (docs : List Doc) (hinj : docs.Pairwise (fun a b => a.iid ≠ b.iid)) :
    den (.conj (q :: qs)) docs = Bleve.ConjSearcher.conjDen ((q :: qs).map (fun x => den x docs)) := by
  show _ = (den q docs).filter fun i => (qs.map (den · docs)).all (·.contains i)
  unfold den
  rw [List.filter_map, List.filter_filter]
  congr 1
  refine List.filter_congr fun d hd => ?_
  rw [eval_conj, List.all_cons, Bool.and_comm, Function.comp_apply, List.all_map]
  exact congrArg (· && eval q d) (List.all_congr rfl fun q' => (contains_den hinj q' hd).symm)

/-- **End to end for the conjunction**: over a corpus listed in ascending internal-id order, the
    conjunction searcher built from the clause searchers' match lists answers every program of Next and
    Advance calls like the contract machine over the meaning of the query. -/
theorem conj_query_searcher_correct (w : Bleve.BoolSearcher.Weird) (q : Q) (qs : List Q) (docs : List Doc)
    (hasc : docs.Pairwise (fun a b => a.iid < b.iid)) (ops : List Bleve.BoolSearcher.Op) :
    Bleve.ConjSearcher.runImpl w (Bleve.ConjSearcher.init ((q :: qs).map (fun x => den x docs))) ops =
    Bleve.BoolSearcher.runSpec (den (.conj (q :: qs)) docs) ops := by
  rw [den_conj q qs docs (hasc.imp Nat.ne_of_lt)]
  exact Bleve.ConjSearcher.conj_searcher_correct w _ (List.forall_mem_map.2 fun x _ => asc_den hasc x) ops

/-- **The meaning of a disjunction with a minimum is what the disjunction searcher enumerates.** -/
theorem den_disj (min : Nat) (qs : List Q) (docs : List Doc)
    (hasc : docs.Pairwise (fun a b => a.iid < b.iid)) :
    den (.disj min qs) docs = Bleve.DisjSearcher.disjDen (qs.map (fun x => den x docs)) min := by
  have hinj : docs.Pairwise (fun a b => a.iid ≠ b.iid) := hasc.imp Nat.ne_of_lt
  refine Asc.ext (asc_den hasc _) (Bleve.DisjSearcher.disjDen_asc _ _) fun i => ?_
  -- for the id of a document of the corpus: the clauses that list it are those it satisfies
  have key : ∀ d ∈ docs, (d.iid ∈ den (.disj min qs) docs ↔
      d.iid ∈ Bleve.DisjSearcher.disjDen (qs.map (fun x => den x docs)) min) := fun d hd => by
    rw [Bleve.DisjSearcher.mem_disjDen, iid_mem_den hinj _ hd, eval_disj, countTrue_eq_length, decide_eq_true_eq,
      Bleve.DisjSearcher.cnt, List.filter_map, List.length_map]
    exact iff_of_eq (congrArg (max 1 min ≤ List.length ·)
      (List.filter_congr fun q' _ => (contains_den hinj q' hd).symm))
  -- and both sides only hold such ids
  constructor
  · intro hi
    obtain ⟨d, hd, -, rfl⟩ := (den_exact _ _ _).1 hi
    exact (key d hd).1 hi
  · intro hi
    obtain ⟨l, hl, hil⟩ := Bleve.DisjSearcher.exists_of_mem_disjDen hi
    obtain ⟨q, -, rfl⟩ := List.mem_map.1 hl
    obtain ⟨d, hd, -, rfl⟩ := (den_exact _ _ _).1 hil
    exact (key d hd).2 hi

/-- **End to end for the disjunction** (the slice searcher, up to ten clauses). -/
theorem disj_query_searcher_correct (w : Bleve.BoolSearcher.Weird) (min : Nat) (qs : List Q) (docs : List Doc)
    (hasc : docs.Pairwise (fun a b => a.iid < b.iid)) (ops : List Bleve.BoolSearcher.Op) :
    Bleve.DisjSearcher.runImpl w (Bleve.DisjSearcher.init (qs.map (fun x => den x docs)) min) ops =
    Bleve.BoolSearcher.runSpec (den (.disj min qs) docs) ops := by
  rw [den_disj min qs docs hasc]
  exact Bleve.DisjSearcher.disj_searcher_correct w _ min (List.forall_mem_map.2 fun x _ => asc_den hasc x) ops

end Bleve.Query
