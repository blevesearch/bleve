import BleveModel.Model.BoolSearcher
import BleveModel.Lemmas.Asc
/-!
# The boolean searcher keeps the searcher contract (C08) and yields exactly its denotation (C02)

For every choice of what children do outside their contract (`w`), every state reachable from `init`
and every program of `Next` / `Advance` calls, the machine of `Model/BoolSearcher.lean` answers like
the contract machine over `abs st` — the candidates that are not excluded and, when the should clause
is required, matched by it (`run_refines`).  Children are only ever advanced to targets ahead of
their cursors (that is why `w` does not matter); dropping either guard in `Advance` (must-not: the
seeded change `C02-boolean-advance-mustnot-le`; should: the defect repaired in 84fa025) makes these proofs fail.

A child that keeps the contract (`Ch.ok`) is its ascending list `all`: the cursor is the head.  The
child operations are stated on `all` — `next` takes the tail, `adv` and `advBehind` skip to the
target — and the state's invariant only says that the three children are ok.

One modelling decision carries the refinement: the candidate `cur st` is computed from the must (else
should) cursor wherever it is read, while Go keeps it in the field `currentID` and reassigns it by that
formula at the end of `initSearchers`, `advanceNextMust` and the repositioning in `Advance`
(Model/BoolSearcher.lean, `cur`); that the field is never stale in between is not proved here.
-/
namespace Bleve.BoolSearcher

def Asc (l : List Nat) : Prop := l.Pairwise (· < ·)

/-! ## children -/

def Ch.ok (c : Ch) : Prop := Asc c.all ∧ (c.curr = none → c.rem = [])

theorem Ch.ok.eq_mk {c : Ch} (h : c.ok) : c = ⟨c.all.head?, c.all.tail⟩ := by
  obtain ⟨_ | v, rem⟩ := c
  · obtain rfl : rem = [] := h.2 rfl
    rfl
  · rfl

theorem Ch.ok.curr_eq {c : Ch} (h : c.ok) : c.curr = c.all.head? :=
  congrArg Ch.curr h.eq_mk

theorem Ch.ok.rem_eq {c : Ch} (h : c.ok) : c.rem = c.all.tail :=
  congrArg Ch.rem h.eq_mk

theorem Ch.ok.all_eq_nil {c : Ch} (h : c.ok) (hc : c.curr = none) : c.all = [] :=
  List.head?_eq_none_iff.1 (h.curr_eq.symm.trans hc)

theorem Ch.all_of_curr_some {c : Ch} {v : Nat} (hc : c.curr = some v) : c.all = v :: c.rem := by
  rw [Ch.all, hc]
  rfl

theorem Ch.ok.asc_rem {c : Ch} (h : c.ok) : Asc c.rem :=
  List.Pairwise.sublist (List.sublist_append_right _ _) h.1

theorem Ch.next_eq (c : Ch) : c.next = ⟨c.rem.head?, c.rem.tail⟩ := by
  unfold Ch.next
  cases c.rem <;> rfl

theorem Ch.next_all (c : Ch) : c.next.all = c.rem := by
  unfold Ch.next Ch.all
  cases c.rem <;> rfl

theorem Ch.ok.next_all {c : Ch} (h : c.ok) : c.next.all = c.all.tail :=
  (Ch.next_all c).trans h.rem_eq

theorem Ch.ok.next_all_of_curr {c : Ch} {m : Nat} (h : c.ok) (hm : c.curr = some m) :
    c.next.all = c.all.dropWhile (· < m + 1) :=
  h.next_all.trans (Asc.dropWhile_succ h.1 (h.curr_eq.symm.trans hm)).symm

theorem Ch.next_ok {c : Ch} (h : Asc c.rem) : c.next.ok := by
  refine ⟨by rwa [Ch.next_all], ?_⟩
  unfold Ch.next
  cases c.rem <;> simp

/-- advancing a child whose cursor is behind the target: independent of `w` -/
theorem Ch.adv_of_behind (w : Weird) (t : Nat) (c : Ch) (hb : ∀ v ∈ c.curr, v < t) :
    c.adv w t = Ch.next { c with rem := c.rem.dropWhile (· < t) } := by
  fun_cases Ch.adv w t c with
  | case1 v hv htv => exact absurd (hb v hv) (Nat.not_lt.2 htv)  -- cursor at or past the target, where `w` answers
  | case2 => rfl  -- cursor behind the target
  | case3 => rfl  -- no cursor

theorem Ch.adv_all (w : Weird) (t : Nat) (c : Ch) (hb : ∀ v ∈ c.curr, v < t) :
    (c.adv w t).all = c.all.dropWhile (· < t) := by
  rw [Ch.adv_of_behind w t c hb, Ch.next_all]
  unfold Ch.all
  cases hc : c.curr with
  | none => rfl
  | some v => exact (List.dropWhile_cons_of_pos (by simpa using hb v hc)).symm

theorem Ch.adv_ok (w : Weird) (t : Nat) {c : Ch} (h : c.ok) (hb : ∀ v ∈ c.curr, v < t) : (c.adv w t).ok := by
  rw [Ch.adv_of_behind w t c hb]
  exact Ch.next_ok (Asc.dropWhile_asc h.asc_rem t)

/-- `advBehind` skips to the target whatever the cursor: a cursor at or after it has nothing to skip -/
theorem advBehind_all (w : Weird) (t : Nat) (c : Ch) : (advBehind w t c).all = c.all.dropWhile (· < t) := by
  fun_cases advBehind w t c with
  | case1 v hv hvt => exact Ch.adv_all w t c (by simpa [hv])  -- cursor behind the target: advanced
  | case2 v hv hvt =>  -- cursor at or past the target: left alone
    rw [Ch.all_of_curr_some hv]
    exact (List.dropWhile_cons_of_neg (by simpa using hvt)).symm
  | case3 hv => exact Ch.adv_all w t c (by simp [hv])  -- no cursor: advanced

theorem advBehind_ok (w : Weird) (t : Nat) {c : Ch} (h : c.ok) : (advBehind w t c).ok := by
  fun_cases advBehind w t c with  -- the same three cases
  | case1 v hv hvt => exact Ch.adv_ok w t h (by simpa [hv])
  | case2 => exact h
  | case3 hv => exact Ch.adv_ok w t h (by simp [hv])

theorem advBehind_of_lt (w : Weird) {t v : Nat} {c : Ch} (hc : c.curr = some v) (hv : v < t) :
    advBehind w t c = c.adv w t := by
  simp [advBehind, hc, hv]

theorem advBehind_eq_self (w : Weird) {t : Nat} {c : Ch} (h : c.ok) (hc : ∀ v ∈ c.curr, t ≤ v) :
    advBehind w t c = c := by
  obtain ⟨_ | v, rem⟩ := c
  · obtain rfl : rem = [] := h.2 rfl
    rfl
  · simp [advBehind, Nat.not_lt.2 (hc v rfl)]

theorem advBehind_curr_beq (w : Weird) (t : Nat) {c : Ch} (h : c.ok) :
    ((advBehind w t c).curr == some t) = c.all.contains t := by
  have hasc := Asc.dropWhile_asc h.1 t
  -- the cursor is the head of what is left from `t` on, and `t` heads that exactly when it is a match
  rw [(advBehind_ok w t h).curr_eq, advBehind_all, Bool.eq_iff_iff, beq_iff_eq, List.contains_iff_mem,
    Asc.head?_eq_some_iff hasc (fun d hd => ((Asc.mem_dropWhile h.1).1 hd).2), Asc.mem_dropWhile h.1]
  exact and_iff_left (Nat.le_refl t)

theorem fresh_next_all (l : List Nat) : (Ch.fresh l).next.all = l := Ch.next_all _

theorem fresh_next_ok {l : List Nat} (h : Asc l) : (Ch.fresh l).next.ok := Ch.next_ok h

/-! ## keeping the contract -/

theorem popList_eq (l : List Nat) : popList l = (l.head?, l.tail) := by
  cases l <;> rfl

/-- the answer of a call together with the state after it, `r`, is what the contract machine yields on
    the list `l`: its head, leaving a state that stands for its tail -/
structure Pops {σ : Type} (I : σ → Prop) (abs : σ → List Nat) (r : Option Nat × σ) (l : List Nat) : Prop where
  fst : r.1 = l.head?
  snd : abs r.2 = l.tail
  inv : I r.2

theorem Pops.none {σ : Type} {I : σ → Prop} {abs : σ → List Nat} {st : σ} {l : List Nat} (hi : I st)
    (ha : abs st = []) (hl : l = []) : Pops I abs (none, st) l :=
  hl ▸ ⟨rfl, ha, hi⟩

theorem Pops.some {σ : Type} {I : σ → Prop} {abs : σ → List Nat} {st : σ} {l : List Nat} {x : Nat} (hi : I st)
    (hl : l = x :: abs st) : Pops I abs (some x, st) l :=
  hl ▸ ⟨rfl, rfl, hi⟩

/-- **Refinement, for any searcher**: a machine whose `Next` and `Advance` pop the list its state
    stands for answers every program like the contract machine over that list. -/
theorem runSpec_of_pops {σ : Type} {I : σ → Prop} {abs : σ → List Nat} {nxt : σ → Option Nat × σ}
    {adv : Nat → σ → Option Nat × σ} {run : σ → List Op → List (Option Nat)}
    (run_nil : ∀ st, run st [] = [])
    (run_next : ∀ st ops, run st (.next :: ops) = (nxt st).1 :: run (nxt st).2 ops)
    (run_adv : ∀ t st ops, run st (.adv t :: ops) = (adv t st).1 :: run (adv t st).2 ops)
    (hn : ∀ st, I st → Pops I abs (nxt st) (abs st))
    (ha : ∀ t st, I st → Pops I abs (adv t st) ((abs st).dropWhile (· < t))) :
    ∀ (ops : List Op) (st : σ), I st → run st ops = runSpec (abs st) ops := by
  intro ops
  induction ops with
  | nil => intro st _; rw [run_nil]; rfl
  | cons op ops ih =>
    intro st hi
    cases op with
    | next =>
      have h := hn st hi
      rw [run_next, h.fst, ih _ h.inv, h.snd, runSpec, popList_eq]
    | adv t =>
      have h := ha t st hi
      rw [run_adv, h.fst, ih _ h.inv, h.snd, runSpec, popList_eq]

/-! ## the state -/

structure Inv (st : St) : Prop where
  must : ∀ m, st.must = some m → m.ok
  should : ∀ s, st.should = some s → s.ok
  mustNot : ∀ n, st.mustNot = some n → n.ok

theorem ok_of_map {α : Type} {g : Option α} {f : α → Ch} (hf : ∀ c, g = some c → (f c).ok) :
    ∀ c, g.map f = some c → c.ok := by
  intro c hc
  obtain ⟨a, ha, rfl⟩ := Option.map_eq_some_iff.1 hc
  exact hf a ha

theorem optAll_asc {g : Option Ch} (hg : ∀ c, g = some c → c.ok) : Asc ((g.map Ch.all).getD []) := by
  cases g with
  | none => exact List.Pairwise.nil
  | some c => exact (hg c rfl).1

theorem optAll_advBehind (w : Weird) (t : Nat) (g : Option Ch) :
    ((g.map (advBehind w t)).map Ch.all).getD [] = ((g.map Ch.all).getD []).dropWhile (· < t) := by
  cases g with
  | none => rfl
  | some c => exact advBehind_all w t c

theorem optAll_advBehind_contains (w : Weird) {t d : Nat} {g : Option Ch} (hg : ∀ c, g = some c → c.ok)
    (htd : t ≤ d) :
    (((g.map (advBehind w t)).map Ch.all).getD []).contains d = ((g.map Ch.all).getD []).contains d := by
  rw [optAll_advBehind, Asc.contains_dropWhile (optAll_asc hg) htd]

theorem cur_eq {st : St} (hi : Inv st) : cur st = (candAll st).head? := by
  unfold cur candAll
  cases hm : st.must with
  | some m => exact (hi.must m hm).curr_eq
  | none =>
    cases hs : st.should with
    | none => rfl
    | some s => exact (hi.should s hs).curr_eq

theorem candAll_asc {st : St} (hi : Inv st) : Asc (candAll st) := by
  unfold candAll
  cases hm : st.must with
  | some m => exact (hi.must m hm).1
  | none => exact optAll_asc hi.should

theorem abs_of_done {st : St} (hd : st.done = true) : abs st = [] :=
  if_pos hd

theorem abs_of_live {st : St} (hd : st.done = false) : abs st = (candAll st).filter (okDoc st) :=
  if_neg (hd ▸ Bool.false_ne_true)

theorem okDoc_congr {st st' : St} {d : Nat} (hn : (notAll st').contains d = (notAll st).contains d)
    (hs : (shouldAll st').contains d = (shouldAll st).contains d)
    (hreq : (st'.must.isSome && st'.should.isSome && !st'.min0) = (st.must.isSome && st.should.isSome && !st.min0)) :
    okDoc st' d = okDoc st d := by
  unfold okDoc
  rw [hn, hs, hreq]

/-- the should step leaves the candidate list alone: at most it skips to the candidate, which heads it -/
theorem candAll_should_advBehind (w : Weird) {t : Nat} {st : St} (hhead : (candAll st).head? = some t) :
    candAll { st with should := st.should.map (advBehind w t) } = candAll st := by
  unfold candAll at hhead ⊢
  cases hm : st.must with
  | some m => rfl
  | none =>
    rw [hm] at hhead
    exact (optAll_advBehind w t st.should).trans (Asc.dropWhile_head hhead)

/-- how the guard steps of `Next` treat their child: it is moved like `advBehind` does, and the test
    made on its cursor tells whether it holds the candidate -/
theorem guardStep_eq {α : Type} (w : Weird) (c : Nat) {n : Ch} (hok : n.ok) (f : Ch → Bool → α) :
    (match n.curr with
      | some v => if v < c then f (n.adv w c) ((n.adv w c).curr == some c) else f n (v == c)
      | none => f n false) = f (advBehind w c n) (n.all.contains c) := by
  rw [← advBehind_curr_beq w c hok]
  cases hc : n.curr with
  | none =>
    rw [advBehind_eq_self w hok (by simp [hc])]
    simp [hc]
  | some v =>
    by_cases hv : v < c
    · simp only [advBehind_of_lt w hc hv, if_pos hv]
    · simp [advBehind_eq_self w hok (by simpa [hc] using hv), hv, hc]

theorem notStep_eq (w : Weird) {st : St} (c : Nat) (hi : Inv st) :
    notStep w st c = ({ st with mustNot := st.mustNot.map (advBehind w c) }, (notAll st).contains c) := by
  obtain ⟨m, s, n, min0, done⟩ := st
  cases n with
  | none => rfl
  | some n => exact guardStep_eq w c (hi.mustNot n rfl) fun n' b => ((⟨m, s, some n', min0, done⟩ : St), b)

theorem shouldStep_eq (w : Weird) {st : St} (c : Nat) (hi : Inv st) :
    shouldStep w st c =
      ({ st with should := st.should.map (advBehind w c) }, !st.should.isSome || st.min0 || (shouldAll st).contains c) := by
  obtain ⟨m, s, n, min0, done⟩ := st
  cases s with
  | none => rfl
  | some s =>
    rw [Bool.or_comm (!_ || _)]
    exact guardStep_eq w c (hi.should s rfl) fun s' b => ((⟨m, some s', n, min0, done⟩ : St), b || min0)

theorem advanceNextMust_inv {st : St} (hi : Inv st) : Inv (advanceNextMust st) := by
  unfold advanceNextMust
  cases hm : st.must with
  | some m => exact ⟨fun _ h => Option.some.inj h ▸ Ch.next_ok (hi.must m hm).asc_rem, hi.should, hi.mustNot⟩
  | none => exact ⟨nofun, ok_of_map fun s hs => Ch.next_ok (hi.should s hs).asc_rem, hi.mustNot⟩

theorem candAll_advanceNextMust {st : St} (hi : Inv st) : candAll (advanceNextMust st) = (candAll st).tail := by
  unfold advanceNextMust candAll
  cases hm : st.must with
  | some m => exact (hi.must m hm).next_all
  | none =>
    cases hs : st.should with
    | none => rfl
    | some s => exact (hi.should s hs).next_all

/-- moving the candidate cursor on does not change what passes: with a must clause only that clause
    moves, without one the should clause is not consulted -/
theorem okDoc_advanceNextMust (st : St) : okDoc (advanceNextMust st) = okDoc st := by
  unfold advanceNextMust
  cases hm : st.must <;> funext d <;> simp [okDoc, notAll, shouldAll, hm]

theorem done_advanceNextMust (st : St) : (advanceNextMust st).done = st.done := by
  unfold advanceNextMust
  split <;> rfl

/-- for a candidate that is not excluded, the test made by the should step is `okDoc` -/
theorem pass_eq_okDoc {st : St} {c : Nat} (hi : Inv st) (hc : cur st = some c)
    (hex : (notAll st).contains c = false) :
    (!st.should.isSome || st.min0 || (shouldAll st).contains c) = okDoc st c := by
  unfold okDoc
  rw [hex]
  cases hm : st.must with
  | some m => cases st.should.isSome <;> cases st.min0 <;> simp
  | none =>
    -- the candidate is the should clause's own cursor
    have : c ∈ shouldAll st := by
      have := List.mem_of_mem_head? (cur_eq hi ▸ hc)
      simpa [candAll, shouldAll, hm] using this
    simp [this]

/-- **One round of the loop**: the candidate is returned exactly when it is a match, the candidate
    cursor moves on by one, and what is a match among the later candidates does not change. -/
theorem body_spec (w : Weird) {st st' : St} {c : Nat} {r : Option Nat} (hi : Inv st) (hc : cur st = some c)
    (hb : body w st c = (r, st')) :
    Inv st' ∧ st'.done = st.done ∧ candAll st = c :: candAll st' ∧
    r = (if okDoc st c then some c else none) ∧ ∀ d, c < d → okDoc st' d = okDoc st d := by
  have hhead := (cur_eq hi).symm.trans hc
  have hcons : ∀ {l : List Nat}, l = (candAll st).tail → candAll st = c :: l := fun hl =>
    hl ▸ (Asc.cons_head?_tail hhead).symm
  -- a guard moved up to `c` like `advBehind` does stays ok and holds what it held from `c` on
  have hn := ok_of_map fun n hn => advBehind_ok w c (hi.mustNot n hn)
  have hs := ok_of_map fun s hs => advBehind_ok w c (hi.should s hs)
  have hnd := fun d (hd : c < d) => optAll_advBehind_contains w hi.mustNot (Nat.le_of_lt hd)
  have hsd := fun d (hd : c < d) => optAll_advBehind_contains w hi.should (Nat.le_of_lt hd)
  have hi1 : Inv { st with mustNot := st.mustNot.map (advBehind w c) } := ⟨hi.must, hi.should, hn⟩
  unfold body at hb
  rw [notStep_eq w c hi] at hb
  simp only [] at hb  -- reduces the `let` over the pair `notStep_eq` has put there
  by_cases hex : (notAll st).contains c = true
  · -- excluded: only the must-not guard has moved
    obtain ⟨rfl, rfl⟩ := Prod.mk.inj ((if_pos hex).symm.trans hb)
    refine ⟨advanceNextMust_inv hi1, done_advanceNextMust _, hcons (candAll_advanceNextMust hi1), ?_, fun d hd => ?_⟩
    · unfold okDoc
      rw [hex]
      rfl
    · rw [okDoc_advanceNextMust]
      exact okDoc_congr (hnd d hd) rfl rfl
  · -- not excluded: the should guard moves as well, and its test decides
    rw [if_neg hex, shouldStep_eq w c hi1] at hb
    obtain ⟨rfl, rfl⟩ := Prod.mk.inj hb
    have hi2 : Inv { st with mustNot := st.mustNot.map (advBehind w c), should := st.should.map (advBehind w c) } :=
      ⟨hi.must, hs, hn⟩
    refine ⟨advanceNextMust_inv hi2, done_advanceNextMust _, hcons ?_, ?_, fun d hd => ?_⟩
    · rw [candAll_advanceNextMust hi2]
      exact congrArg List.tail (candAll_should_advBehind w hhead)  -- `candAll` does not look at must-not
    · exact congrArg (fun b : Bool => if b then some c else none)
        (pass_eq_okDoc hi hc (by simpa using hex))
    · rw [okDoc_advanceNextMust]
      exact okDoc_congr (hnd d hd) (hsd d hd) (by simp)

theorem abs_round (w : Weird) {st st' : St} {c : Nat} {r : Option Nat} (hi : Inv st) (hd : st.done = false)
    (hc : cur st = some c) (hb : body w st c = (r, st')) : abs st = r.toList ++ abs st' := by
  obtain ⟨-, hd', hcand, rfl, hok⟩ := body_spec w hi hc hb
  have hgt := (List.pairwise_cons.1 (hcand ▸ candAll_asc hi)).1
  rw [abs_of_live hd, abs_of_live (hd'.trans hd), hcand, List.filter_cons,
    List.filter_congr fun d hdm => hok d (hgt d hdm)]
  split <;> rfl

theorem nextLoop_spec (w : Weird) (fuel : Nat) (st : St) (hi : Inv st) (hd : st.done = false)
    (hlen : (candAll st).length < fuel) : Pops Inv abs (nextLoop w fuel st) (abs st) := by
  fun_induction nextLoop w fuel st with
  | case1 => exact absurd hlen (Nat.not_lt_zero _)  -- out of fuel
  | case2 fuel st hc =>  -- no candidate left
    refine .none ⟨hi.must, hi.should, hi.mustNot⟩ rfl ?_
    rw [abs_of_live hd, List.head?_eq_none_iff.1 ((cur_eq hi).symm.trans hc)]
    rfl
  | case3 fuel st c hc r st' hb =>  -- the round yields a match
    exact .some (body_spec w hi hc hb).1 (abs_round w hi hd hc hb)
  | case4 fuel st c hc st' hb ih =>  -- it does not: on to the next candidate
    obtain ⟨hi', hd', hcand, -, -⟩ := body_spec w hi hc hb
    rw [abs_round w hi hd hc hb]
    exact ih hi' (hd'.trans hd) (Nat.lt_of_succ_lt_succ (by rwa [hcand] at hlen))

theorem next_spec (w : Weird) (st : St) (hi : Inv st) : Pops Inv abs (next w st) (abs st) := by
  unfold next
  cases hd : st.done with
  | true => exact .none hi (abs_of_done hd) (abs_of_done hd)
  | false => exact nextLoop_spec w _ st hi hd (Nat.lt_succ_self _)

/-- **Repositioning in `Advance`** (taken only when the candidate cursor is behind the target): every
    cursor that is behind moves to the target, the others stay — the remaining matches are those at or
    after the target. -/
theorem reposition_spec (w : Weird) (t : Nat) {st : St} (hi : Inv st) (hb : ∀ c ∈ cur st, c < t) :
    Inv (reposition w t st) ∧ abs (reposition w t st) = (abs st).dropWhile (· < t) := by
  -- with a must clause, its cursor is the candidate cursor
  have hbm : ∀ m, st.must = some m → ∀ v ∈ m.curr, v < t := fun m hm v hv => hb v (by simpa [cur, hm] using hv)
  have hcand : candAll (reposition w t st) = (candAll st).dropWhile (· < t) := by
    unfold reposition candAll
    cases hm : st.must with
    | some m => exact Ch.adv_all w t m (hbm m hm)
    | none => exact optAll_advBehind w t st.should
  have hok : ∀ d, t ≤ d → okDoc (reposition w t st) d = okDoc st d := fun d hd =>
    okDoc_congr (optAll_advBehind_contains w hi.mustNot hd) (optAll_advBehind_contains w hi.should hd)
      (by simp [reposition])
  refine ⟨⟨ok_of_map fun m hm => Ch.adv_ok w t (hi.must m hm) (hbm m hm),
    ok_of_map fun s hs => advBehind_ok w t (hi.should s hs),
    ok_of_map fun n hn => advBehind_ok w t (hi.mustNot n hn)⟩, ?_⟩
  have hasc := candAll_asc hi
  unfold abs
  rw [show (reposition w t st).done = st.done from rfl, hcand]
  split
  · rfl
  · rw [← Asc.filter_dropWhile hasc]
    exact List.filter_congr fun d hd => hok d ((Asc.mem_dropWhile hasc).1 hd).2

theorem advance_spec (w : Weird) (t : Nat) (st : St) (hi : Inv st) :
    Pops Inv abs (advance w t st) ((abs st).dropWhile (· < t)) := by
  unfold advance
  cases hd : st.done with
  | true => exact .none hi (abs_of_done hd) (by rw [abs_of_done hd]; rfl)
  | false =>
    have hrep : (∀ c ∈ cur st, c < t) →
        Pops Inv abs (next w (reposition w t st)) ((abs st).dropWhile (· < t)) := fun hb => by
      obtain ⟨hi', habs⟩ := reposition_spec w t hi hb
      rw [← habs]
      exact next_spec w _ hi'
    simp only [Bool.false_eq_true, if_false]
    cases hc : cur st with
    | none => exact hrep (by simp [hc])
    | some c =>
      by_cases hlt : c < t
      · simp only [hlt, if_true]
        exact hrep (by simpa [hc] using hlt)
      · -- the candidate cursor has reached the target already, and every remaining match is at or after it
        have hge : ∀ d ∈ abs st, t ≤ d := fun d hdm => by
          have hdc : d ∈ candAll st := (List.mem_filter.1 (abs_of_live hd ▸ hdm)).1
          exact Nat.le_trans (Nat.le_of_not_lt hlt) (Asc.head?_le (candAll_asc hi) ((cur_eq hi).symm.trans hc) hdc)
        simp only [hlt, if_false]
        rw [Asc.dropWhile_eq_self hge]
        exact next_spec w st hi

/-- **Refinement**: for every behaviour of the children outside their contract, every reachable state
    and every program of `Next` and `Advance` calls, the boolean searcher answers exactly like the
    contract machine over its remaining matches. -/
theorem run_refines (w : Weird) : ∀ (ops : List Op) (st : St), Inv st →
    runImpl w st ops = runSpec (abs st) ops :=
  runSpec_of_pops (fun _ => rfl) (fun _ _ => rfl) (fun _ _ _ => rfl) (next_spec w) (advance_spec w)

/-! ## from the query's clauses -/

/-- the documents a boolean query stands for, given the ascending match lists of its clauses -/
def boolDen (must should mustNot : Option (List Nat)) (min0 : Bool) : List Nat :=
  ((must.or should).getD []).filter (fun d =>
    !((mustNot.getD []).contains d) &&
    (if must.isSome && should.isSome && !min0 then (should.getD []).contains d else true))

def AscOpt : Option (List Nat) → Prop
  | none => True
  | some l => Asc l

theorem init_ok {o : Option (List Nat)} (h : AscOpt o) :
    ∀ c, o.map (fun l => (Ch.fresh l).next) = some c → c.ok :=
  ok_of_map fun l hl => fresh_next_ok (show AscOpt (some l) from hl ▸ h)

theorem init_inv (must should mustNot : Option (List Nat)) (min0 : Bool)
    (hm : AscOpt must) (hs : AscOpt should) (hn : AscOpt mustNot) : Inv (init must should mustNot min0) :=
  ⟨init_ok hm, init_ok hs, init_ok hn⟩

/-- a state stands for the denotation of what its clauses still hold -/
theorem abs_eq_boolDen (st : St) : abs st =
    if st.done then [] else boolDen (st.must.map Ch.all) (st.should.map Ch.all) (st.mustNot.map Ch.all) st.min0 := by
  unfold abs boolDen candAll okDoc notAll shouldAll
  simp only [Option.isSome_map]
  cases st.must <;> rfl

theorem abs_init (must should mustNot : Option (List Nat)) (min0 : Bool) :
    abs (init must should mustNot min0) = boolDen must should mustNot min0 := by
  have hall : ∀ o : Option (List Nat), (o.map fun l => (Ch.fresh l).next).map Ch.all = o := fun o => by
    cases o <;> simp [fresh_next_all]
  rw [abs_eq_boolDen]
  simp only [init, hall]
  rfl

/-- **The boolean searcher is correct**: built over clauses whose searchers keep the contract (ascending
    match lists), for every program of `Next` and `Advance` calls and whatever the clause searchers do
    outside their contract, it answers like the contract machine over the query's denotation: candidates
    from must (else should), minus must-not, restricted to should when should is required. -/
theorem bool_searcher_correct (w : Weird) (must should mustNot : Option (List Nat)) (min0 : Bool)
    (hm : AscOpt must) (hs : AscOpt should) (hn : AscOpt mustNot) (ops : List Op) :
    runImpl w (init must should mustNot min0) ops = runSpec (boolDen must should mustNot min0) ops := by
  rw [run_refines w ops _ (init_inv must should mustNot min0 hm hs hn), abs_init]

/-- the denotation is itself ascending: the boolean searcher can be a clause of any other searcher -/
theorem boolDen_asc (must should mustNot : Option (List Nat)) (min0 : Bool)
    (hm : AscOpt must) (hs : AscOpt should) : Asc (boolDen must should mustNot min0) := by
  unfold boolDen
  apply List.Pairwise.sublist List.filter_sublist
  cases must with
  | some l => exact hm
  | none => cases should with
    | none => exact List.Pairwise.nil
    | some l => exact hs

/-! ## non-vacuity -/

/-- must [1,3,5,8], should [3,8,9] required, must-not [5]: entered through Advance 2, then Next -/
example : runImpl (fun _ c => c) (init (some [1, 3, 5, 8]) (some [3, 8, 9]) (some [5]) false) [.adv 2, .next, .next]
    = [some 3, some 8, none] := by decide
/-- the same when a clause searcher, asked to advance to where it already is, moves on instead -/
example : runImpl (fun _ c => c.next) (init (some [1, 3, 5, 8]) (some [3, 8, 9]) (some [5]) false) [.adv 2, .next, .next]
    = [some 3, some 8, none] := by decide

end Bleve.BoolSearcher
