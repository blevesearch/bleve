import BleveModel.Model.KV
import BleveModel.Lemmas.Assoc
import BleveModel.Lemmas.Asc
/-!
# C15 — KV store adapters are ordered maps with atomic batches and snapshot readers

"For each KV store usable under the upsidedown index (boltdb, goleveldb, gtreap, moss, and the
metrics wrapper), any sequence of batches of set, delete and merge operations leaves the store equal
to an ordered map on which the batches were applied atomically in order, with merges combined by the
configured merge operator. A reader sees the contents as of its creation regardless of later writes,
and get, multi-get, prefix and range iteration with seek return exactly the map's entries in byte
order."

Model: `Model/KV.lean` — the ordered map, `execBatch`, and the adapters' iterator logic over an
engine cursor.  Tie: `./check C15` runs the same seeded operation sequences against all five stores
(obtained through the registry) and the model and compares every answer.  Readers are values in the
model (a reader *is* the map it captured), so isolation is by construction there; that the real
readers behave like values is what the tie checks.
-/
namespace Bleve.KV

/-! ## bytewise order -/

theorem bytesLt_iff : ∀ a b : Bytes, bytesLt a b = true ↔ a < b
  | _, [] => by simp [bytesLt]
  | [], _ :: _ => by simp [bytesLt]
  | x :: a, y :: b => by
    rw [bytesLt, List.cons_lt_cons_iff, ← bytesLt_iff a b]
    rcases Nat.lt_trichotomy x y with h | h | h
    · simp [h]
    · simp [h]
    · simp [Nat.lt_asymm h, Nat.ne_of_gt h, h]

theorem bytesLt_irrefl (a : Bytes) : bytesLt a a = false :=
  Bool.eq_false_iff.2 fun h => List.lt_irrefl a ((bytesLt_iff a a).1 h)

theorem bytesLt_asymm : ∀ a b : Bytes, bytesLt a b = true → bytesLt b a = false := by
  intro a b h
  exact Bool.eq_false_iff.2 fun h' => List.lt_asymm ((bytesLt_iff a b).1 h) ((bytesLt_iff b a).1 h')

theorem bytesLt_trans {a b c : Bytes} (h₁ : bytesLt a b = true) (h₂ : bytesLt b c = true) :
    bytesLt a c = true :=
  (bytesLt_iff a c).2 (List.lt_trans ((bytesLt_iff a b).1 h₁) ((bytesLt_iff b c).1 h₂))

theorem bytesLt_total (a b : Bytes) (h : a ≠ b) : bytesLt a b = true ∨ bytesLt b a = true := by
  rw [bytesLt_iff, bytesLt_iff]
  by_cases h' : b < a
  · exact .inr h'
  · exact .inl ((List.le_iff_lt_or_eq.1 h').resolve_right h)

/-! ## the store is a map: get / put / delete laws (last write wins) -/

theorem beq_bytes_refl (k : Bytes) : (k == k) = true := by simp

theorem get_eq_lookup (s : Store) (k : Bytes) : get s k = s.lookup k := by
  induction s with
  | nil => rfl
  | cons p s ih =>
    obtain ⟨k', v⟩ := p
    rw [get, List.lookup_cons, ih, BEq.comm]
    cases k == k' <;> rfl

theorem get_cons (k' v : Bytes) (s : Store) (k : Bytes) :
    get ((k', v) :: s) k = if k' = k then some v else get s k := by
  simp only [get, beq_iff_eq]

theorem get_put (s : Store) (k v k₂ : Bytes) :
    get (put s k v) k₂ = if k = k₂ then some v else get s k₂ := by
  -- the branches of `put`: empty store, same key (replace), smaller key (insert in front), go on
  fun_induction put s k v with
  | case1 => rw [get_cons]
  | case2 k' v' rest h =>
    cases eq_of_beq h
    rw [get_cons, get_cons]
    split <;> rfl
  | case3 => rw [get_cons]
  | case4 k' v' rest h _ ih =>
    -- the entry at `k' ≠ k` stays in front: the two tests commute
    rw [get_cons, get_cons, ih]
    by_cases hk : k = k₂
    · rw [if_pos hk, if_pos hk, if_neg fun e => h (beq_iff_eq.2 (hk.trans e.symm))]
    · rw [if_neg hk, if_neg hk]

theorem get_del (s : Store) (k k₂ : Bytes) : get (del s k) k₂ = if k = k₂ then none else get s k₂ := by
  rw [get_eq_lookup, del, Assoc.lookup_filter_key (fun x => !(x == k)), get_eq_lookup]
  by_cases h : k = k₂
  · simp [h]
  · simp [h, Ne.symm h]

theorem get_isSome (s : Store) (k : Bytes) : (get s k).isSome = (s.map (·.1)).contains k := by
  rw [get_eq_lookup, Assoc.contains_keys]

/-! ## the store stays an *ordered* map -/

def SortedKeys (s : Store) : Prop := s.Pairwise (fun a b => bytesLt a.1 b.1 = true)

theorem sortedKeys_nodup {s : Store} (h : SortedKeys s) : (s.map (·.1)).Nodup :=
  List.pairwise_map.2 (h.imp fun hab e => by simp [e, bytesLt_irrefl] at hab)

theorem mem_put {s : Store} {k v : Bytes} {x : Bytes × Bytes} (hx : x ∈ put s k v) :
    x = (k, v) ∨ x ∈ s := by
  fun_induction put s k v with  -- the four branches named at `get_put`
  | case1 => exact .inl (List.mem_singleton.1 hx)
  | case2 => exact (List.mem_cons.1 hx).imp_right (List.mem_cons_of_mem _)
  | case3 => exact List.mem_cons.1 hx
  | case4 _ _ _ _ _ ih =>
    rcases List.mem_cons.1 hx with rfl | hx
    · exact .inr List.mem_cons_self
    · exact (ih hx).imp_right (List.mem_cons_of_mem _)

theorem put_sorted {s : Store} {k v : Bytes} (hs : SortedKeys s) : SortedKeys (put s k v) := by
  fun_induction put s k v with  -- the same four branches
  | case1 => exact List.pairwise_singleton ..
  | case2 k' v' rest h => cases eq_of_beq h; exact List.pairwise_cons.2 (List.pairwise_cons.1 hs)
  | case3 k' v' rest _ hlt =>
    exact List.pairwise_cons.2 ⟨List.forall_mem_cons.2
      ⟨hlt, fun y hy => bytesLt_trans hlt ((List.pairwise_cons.1 hs).1 y hy)⟩, hs⟩
  | case4 k' v' rest hne hnlt ih =>
    obtain ⟨hp, hs⟩ := List.pairwise_cons.1 hs
    have hlt := (bytesLt_total k k' fun e => hne (beq_iff_eq.2 e)).resolve_left hnlt
    refine List.pairwise_cons.2 ⟨fun y hy => ?_, ih hs⟩
    rcases mem_put hy with rfl | hy
    · exact hlt
    · exact hp y hy

theorem del_sorted {s : Store} {k : Bytes} (hs : SortedKeys s) : SortedKeys (del s k) :=
  List.Pairwise.filter _ hs

/-- every batch keeps the store an ordered map, for every operation list -/
theorem execBatch_sorted (s : Store) (ops : List Op) (hs : SortedKeys s) : SortedKeys (execBatch s ops) := by
  unfold execBatch
  refine List.foldlRecOn ops _ ?_ fun st h op _ => ?_
  · exact List.foldlRecOn _ _ hs fun _ h _ _ => put_sorted h
  · cases op with
    | set k v => exact put_sorted h
    | del k => exact del_sorted h
    | merge k v => exact h

/-! ## the engine cursor: Seek positions at the first entry ≥ key, in key order -/

theorem seekFrom_sorted (s : Store) (k : Bytes) (hs : SortedKeys s) : SortedKeys (seekFrom s k) :=
  List.Pairwise.sublist (List.dropWhile_sublist _) hs

theorem seekFrom_ge (s : Store) (k : Bytes) (hs : SortedKeys s) :
    ∀ x ∈ seekFrom s k, bytesLt x.1 k = false := by
  -- later keys are larger, hence not below `k` either: the cursor's skip is a filter
  rw [seekFrom, Asc.dropWhile_eq_filter_not hs fun a b hab ha =>
    Bool.eq_false_iff.2 fun hb => Bool.eq_false_iff.1 ha (bytesLt_trans hab hb)]
  exact fun x hx => by simpa using (List.mem_filter.1 hx).2

theorem seekFrom_skips_only_smaller (s : Store) (k : Bytes) (x : Bytes × Bytes) (hx : x ∈ s)
    (hge : bytesLt x.1 k = false) : x ∈ seekFrom s k := by
  rw [← List.takeWhile_append_dropWhile (p := fun p : Bytes × Bytes => bytesLt p.1 k) (l := s),
    List.mem_append] at hx
  refine hx.resolve_left fun h => ?_
  have := List.all_eq_true.1 List.all_takeWhile x h
  rw [hge] at this
  cases this

/-! ## non-vacuity -/

example : get (execBatch [] [.set [97] [1], .merge [98] [2], .del [97], .set [99] []]) [99] = some [] := by decide
example : (prefixIter [([97], [1]), ([97, 255], [2]), ([98], [3])] [97, 255]).current = some ([97, 255], [2]) := by
  decide

end Bleve.KV
