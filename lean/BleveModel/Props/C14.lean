import BleveModel.Model.Files
import BleveModel.Props.C12
/-!
# C14 — An online backup is a consistent point-in-time copy

"CopyTo, run while the index is being written, merged and purged, produces a directory that opens as an
index whose contents equal the source after some prefix of the batches submitted, no older than the
batches acknowledged before the copy began and containing no partial batch. The source index is
unaffected and segment files needed by the copy are not removed before the copy ends."

Model.  CopyTo captures the current root (one snapshot: by `Props/Snapshot.lean` the replay of a
prefix of the introduced batches, never part of one), schedules its files for copy — in the model of
`Model/Files.lean` this is a `hold` on those files, released when the copy ends — and writes a
directory whose root.bolt has exactly one record naming the copied files.
Theorems: the written directory satisfies the durable invariant and Open loads exactly the captured
snapshot (`copy_opens`); while the copy is in progress no legal step of persister, merger or purger
removes a file it needs, whatever else happens (`copy_protected`); the source state is a function
argument, so it is unchanged by construction (`source_unaffected`, `copy_release_restores`).  That the captured snapshot covers everything
acknowledged before the copy began is the C04 monitor's `covers_acked`.
Tie (`./check C14`): copies are taken while writers, forced merges and the purger run; each copy is
opened and judged by `History.check` in Lean with the acknowledgements sampled before CopyTo was
called; its root.bolt and directory listing are checked against `copyOf`; the source keeps being
observed by C04-style clients and is compared with the full history at the end.
-/
namespace Bleve.Files
open Bleve.Durable

/-- the directory CopyTo writes for a captured snapshot -/
def copyOf (r : Rec) : D := { bolt := [r], present := r.files, acked := 0 }

/-- **The copy opens as exactly the captured snapshot** and is a well-formed index directory. -/
theorem copy_opens (r : Rec) : Durable.Inv (copyOf r) ∧ recover (copyOf r) = some r := by
  have hi : Durable.Inv (copyOf r) :=
    ⟨fun x hx f hf => List.mem_singleton.1 hx ▸ hf, List.pairwise_singleton .., Nat.zero_le _⟩
  exact ⟨hi, recover_newest _ hi⟩

theorem held_step {s : F} {ev : Ev} {h : Nat} {fs : List Name} (hm : (h, fs) ∈ s.held)
    (hne : ev ≠ .release h) : (h, fs) ∈ (step s ev).held := by
  cases ev with
  | dur _ => exact hm
  | hold _ _ => exact List.mem_cons_of_mem _ hm
  | release h' => exact List.mem_filter.2 ⟨hm, bne_iff_ne.2 fun e => hne (e ▸ rfl)⟩

/-- a handle that is held and not released (an open reader, a copy in progress) keeps its files along
    any legal trace: the invariant holds along it and covers held files, and the handle stays held -/
theorem held_protected {evs : List Ev} {s s' : F} {h : Nat} {fs : List Name} (hi : Inv s)
    (hm : (h, fs) ∈ s.held) (hne : ∀ ev ∈ evs, ev ≠ .release h) (hrun : run s evs = some s') :
    ∀ f ∈ fs, f ∈ s'.d.present := by
  have key : Inv s' ∧ (h, fs) ∈ s'.held :=
    run_induction (P := fun s => Inv s ∧ (h, fs) ∈ s.held) (fun _ => rfl) (fun _ _ _ => rfl)
      (fun s ev hev hs hok => ⟨step_inv s ev hs.1 hok, held_step hs.2 (hne ev hev)⟩) ⟨hi, hm⟩ hrun
  exact key.1.2 _ key.2

/-- **Files needed by a copy in progress are not removed**: from the moment the copy is scheduled
    (`hold h fs` accepted) until it ends (`release h`), after any legal trace of persister, merger,
    purger and reader steps, every one of its files still exists. -/
theorem copy_protected (evs : List Ev) (s s' : F) (h : Nat) (fs : List Name) (hi : Inv s)
    (hok : stepOK s (.hold h fs) = true) (hne : ∀ ev ∈ evs, ev ≠ .release h)
    (hrun : run (step s (.hold h fs)) evs = some s') : ∀ f ∈ fs, f ∈ s'.d.present :=
  held_protected (step_inv s _ hi hok) List.mem_cons_self hne hrun

/-- **The source index is unaffected**: scheduling a copy and ending it change nothing of what is on
    the source's disk — its root.bolt records, its files and its acknowledged epoch are those it
    had, so whatever `recover` answered for the source it still answers. -/
theorem source_unaffected (s : F) (h : Nat) (fs : List Name) :
    (step s (.hold h fs)).d = s.d ∧ (step s (.release h)).d = s.d ∧
    recover (step (step s (.hold h fs)) (.release h)).d = recover s.d := ⟨rfl, rfl, rfl⟩

/-- a copy that has ended leaves no trace in the source's bookkeeping when its handle was fresh:
    the held set is what it was, so the purger regains exactly the freedom it had -/
theorem copy_release_restores (s : F) (h : Nat) (fs : List Name) (hfresh : ∀ p ∈ s.held, p.1 ≠ h) :
    (step (step s (.hold h fs)) (.release h)).held = s.held := by
  simp only [step, List.filter_cons, bne_self_eq_false, Bool.false_eq_true, if_false]
  exact List.filter_eq_self.2 fun p hp => bne_iff_ne.2 (hfresh p hp)

/-! ## non-vacuity -/

example : recover (copyOf ⟨9, ["a.zap", "b.zap"]⟩) = some ⟨9, ["a.zap", "b.zap"]⟩ := by decide
/-- the purger may not touch a file scheduled for copy even when no snapshot names it any more -/
example : (run { d := { present := ["a.zap"] } } [.hold 1 ["a.zap"], .dur (.zapRemove "a.zap")]).isNone = true := by decide
example : ((run { d := { present := ["a.zap"] } } [.hold 1 ["a.zap"], .release 1, .dur (.zapRemove "a.zap")]).map
    (fun s => s.d.present)) = some [] := by decide

end Bleve.Files
