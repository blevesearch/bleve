import BleveModel.Model.Collector
import BleveModel.Lemmas.Collector
/-!
# C06 — Hits are the requested slice of the fully sorted match list

"For any set of matches and any sort specification (score, id, field values ascending or
descending, missing first or last, min/max mode, several keys), the returned hits are exactly
positions From..From+Size of all matches ordered by that specification with ties broken by natural
index order, Total is the number of all matches and MaxScore their maximum score. Pages requested
with From/Size tile the ordering with no gap or duplicate, and when the sort is a total order
SearchAfter and SearchBefore started from any hit return exactly the following and preceding
pages."

Model: `Model/TopN.lean` (generic bounded store + `lowestMatchOutsideResults`), `Model/Collector.lean`
(sort keys, `SortOrder.Compare`, search-after).  Tie: `./check C06` feeds seeded match streams into
the real `TopNCollector` (stub searcher/reader) and compares hits, Total and MaxScore with the model.
Scores are modelled as integers: an order-isomorphic stand-in for non-NaN floats (NaN scores are an
excluded point, see DESIGN.md).
-/
namespace Bleve.Collector
open Bleve.TopN

/-- the comparison is a strict total order for every sort specification (matches with distinct
    hit numbers) -/
theorem cmp_strict_total (so : List SortSpec) : Ord (lt so) (fun m => m.hit) :=
  ord_of_isCmp (cmp_isCmp so) (fun _ _ => rfl) fun a b h0 =>
    Int.ofNat_inj.1 ((cmpInt_eq_zero _ _).1 (lexCmp_zero_tie _ hitCmp a b h0))

/-- The hits for any search-after sentinel (none included): positions `skip .. skip+size` of the
    sorted list of all matches, restricted to those the filter keeps. -/
theorem collect_hits (so : List SortSpec) (size skip : Nat) (after : Option Match) (ms : List Match)
    (hd : (ms.map (fun m => m.hit)).Nodup) :
    (collect so size skip after ms).hits =
      (((isort (lt so) ms).filter (afterKeep so after)).drop skip).take size := by
  rw [← isort_filter (cmp_strict_total so) _ ms hd]
  exact collect_eq_page (cmp_strict_total so) size skip _ ((List.filter_sublist.map _).nodup hd)

/-- **Main statement.** For every sort specification, every stream of matches with distinct hit
    numbers, every size and skip: the collector (bounded store, eviction shortcut, `Final(skip)`)
    returns exactly positions `skip .. skip+size` of the fully sorted match list. -/
theorem collector_eq_page (so : List SortSpec) (size skip : Nat) (ms : List Match)
    (hd : (ms.map (fun m => m.hit)).Nodup) :
    (collect so size skip none ms).hits = page (lt so) size skip ms := by
  rw [collect_hits so size skip none ms hd,
    (List.filter_eq_self (p := afterKeep so none)).2 fun _ _ => rfl, page]

/-- ... where "the fully sorted match list" is any sorted permutation of the matches (there is
    only one), so the statement does not depend on a sorting algorithm. -/
theorem collector_eq_slice_of_sorted (so : List SortSpec) (size skip : Nat) (ms L : List Match)
    (hd : (ms.map (fun m => m.hit)).Nodup) (hp : L.Perm ms) (hs : Sorted (lt so) L) :
    (collect so size skip none ms).hits = (L.drop skip).take size := by
  rw [collector_eq_page so size skip ms hd]
  exact page_eq_of_sorted_perm (cmp_strict_total so) size skip ms L hd hp hs

theorem prepare_hits (so : List SortSpec) (raws : List Raw) :
    (prepare so raws).map (fun m => m.hit) = List.range' 1 raws.length := by
  rw [← List.map_add_range' 0, ← List.zipIdx_map_snd 0 raws, prepare, List.map_map, List.map_map]
  exact List.map_congr_left fun p _ => Nat.add_comm _ _

/-- the hypothesis of the main statement holds for every prepared stream -/
theorem prepare_hits_nodup (so : List SortSpec) (raws : List Raw) :
    ((prepare so raws).map (fun m => m.hit)).Nodup := by
  rw [prepare_hits]
  exact List.nodup_range'

theorem total_eq (so : List SortSpec) (size skip : Nat) (after : Option Match) (ms : List Match) :
    (collect so size skip after ms).total = ms.length := rfl

/-- the fold is `(collect so size skip after ms).maxScore` at `init = 0`: the largest score seen, or `init` -/
theorem foldl_max_spec (l : List Match) (init : Int) :
    let r := l.foldl (fun m d => if d.score > m then d.score else m) init
    (∀ m ∈ l, m.score ≤ r) ∧ (r = init ∨ ∃ m ∈ l, m.score = r) := by
  induction l using snoc_induction with
  | nil => exact ⟨nofun, .inl rfl⟩
  | snoc p d ih =>
    simp only [List.foldl_append, List.foldl_cons, List.foldl_nil] at ih ⊢
    generalize p.foldl _ init = r at ih ⊢
    obtain ⟨hle, hat⟩ := ih
    simp only [List.mem_append, List.mem_singleton]
    split
    · next hd =>  -- `d` is the new maximum
      refine ⟨?_, .inr ⟨d, .inr rfl, rfl⟩⟩
      rintro m (hm | rfl)
      · exact Int.le_trans (hle m hm) (Int.le_of_lt hd)
      · exact Int.le_refl _
    · next hd =>  -- the maximum stays
      refine ⟨?_, hat.imp_right fun ⟨m, hm, e⟩ => ⟨m, .inl hm, e⟩⟩
      rintro m (hm | rfl)
      · exact hle m hm
      · exact Int.not_lt.1 hd

/-- with non-negative scores (tf-idf scores are) MaxScore is the maximum -/
theorem maxScore_eq (so : List SortSpec) (size skip : Nat) (after : Option Match) (ms : List Match)
    (hne : ms ≠ []) (hpos : ∀ m ∈ ms, 0 ≤ m.score) :
    (∃ m ∈ ms, m.score = (collect so size skip after ms).maxScore) ∧
    ∀ m ∈ ms, m.score ≤ (collect so size skip after ms).maxScore := by
  obtain ⟨hle, hat⟩ := foldl_max_spec ms 0
  refine ⟨hat.elim (fun h0 => ?_) id, hle⟩
  -- the maximum is the initial 0: every score is 0 then, and any match attains it
  obtain ⟨x, hx⟩ := List.exists_mem_of_ne_nil ms hne
  exact ⟨x, hx, Int.le_antisymm (hle x hx) (Int.le_trans (Int.le_of_eq h0) (hpos x hx))⟩

/-- pages tile the ordering: consecutive pages concatenate to the bigger page, no gap, no duplicate -/
theorem pages_tile (so : List SortSpec) (s₁ s₂ skip : Nat) (ms : List Match) :
    page (lt so) s₁ skip ms ++ page (lt so) s₂ (skip + s₁) ms = page (lt so) (s₁ + s₂) skip ms := by
  unfold page
  rw [← List.drop_drop, List.take_add]

/-! ## search-after under a total sort -/

/-- the sort keys alone separate any two matches of the stream -/
def TotalOn (so : List SortSpec) (ms : List Match) : Prop :=
  ∀ a ∈ ms, ∀ b ∈ ms, a.hit ≠ b.hit → keyCmp so a b ≠ 0

/-- the sentinel is `h` with the candidate's hit number, which the sort keys make irrelevant unless
    the candidate is `h` itself -/
theorem afterKeep_eq_lt {so : List SortSpec} {ms : List Match} (hd : (ms.map (fun m => m.hit)).Nodup)
    (htot : TotalOn so ms) {h d : Match} (hh : h ∈ ms) (hdm : d ∈ ms) (n : Nat) :
    afterKeep so (some { h with hit := n }) d = lt so h d := by
  have hc := cmp_isCmp so
  show decide (cmp so d { h with hit := d.hit } > 0) = decide (cmp so h d < 0)
  by_cases hhit : d.hit = h.hit
  · cases inj_of_nodup_map _ hd d hdm h hh hhit
    show decide (cmp so h h > 0) = decide (cmp so h h < 0)
    rw [hc.refl h]
  · rw [cmp_hit_irrel so d h d.hit (htot d hdm h hh hhit)]
    have := hc.anti d h
    exact decide_eq_decide.2 (by omega)

/-- **SearchAfter returns the following page.** If the sort is total on the matches and the
    sorted list is `pre ++ [h] ++ post`, then searching after `h`'s sort key (whatever hit number
    the client-side copy carries) returns the first `size` elements of `post`. -/
theorem searchAfter_next_page (so : List SortSpec) (size : Nat) (ms pre post : List Match) (h : Match)
    (n : Nat) (hd : (ms.map (fun m => m.hit)).Nodup) (htot : TotalOn so ms)
    (hL : isort (lt so) ms = pre ++ [h] ++ post) :
    (collect so size 0 (some { h with hit := n }) ms).hits = post.take size := by
  have hmem : ∀ d ∈ isort (lt so) ms, d ∈ ms := fun d => (mem_isort (lt so) d ms).1
  have hh : h ∈ ms := hmem h (by simp [hL])
  have hs : Sorted (lt so) (pre ++ h :: post) := by
    simpa [hL] using isort_sorted (cmp_strict_total so) ms hd
  rw [collect_hits so size 0 _ ms hd,
    List.filter_congr fun d hdm => afterKeep_eq_lt hd htot hh (hmem d hdm) n,
    hL, List.append_assoc, List.singleton_append,
    filter_lt_of_sorted (cmp_strict_total so) pre post h hs, List.drop_zero]

/-! ## non-vacuity -/

example : (collect [⟨.score, true⟩] 2 1 none
    [⟨1, 5, [[]]⟩, ⟨2, 7, [[]]⟩, ⟨3, 5, [[]]⟩, ⟨4, 9, [[]]⟩]).hits.map (fun m => m.hit) = [2, 1] := by decide

end Bleve.Collector
