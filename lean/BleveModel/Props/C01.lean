import BleveModel.Model.IndexSpec
import BleveModel.Props.C15
/-!
# C01 — Index contents equal the last-write-wins replay of the operation history

"After any sequence of Index, Delete, Batch, SetInternal and DeleteInternal calls (re-indexing a
live id, deleting an absent id, several operations on one id inside one batch, empty batches), the
index behaves as a map from document id to the most recently written document: DocCount equals the
number of live ids, Document(id) returns exactly the stored fields of the latest version (nil for an
absent id), a match-all or doc-id search returns exactly the live ids once each, and GetInternal
returns the latest value of each internal key. Operations of one batch take effect together with the
last operation per id winning, and the outcome does not depend on the index type (scorch on disk,
scorch in memory, upsidedown over any KV store) or on how the same operations are split into
batches."

`Model/IndexSpec.lean` is the replay.  `./check C01` runs seeded histories, each with a different
random partition into batches, against scorch (disk, memory, zap v11–v17, with forced merges and
close/reopen) and upsidedown over boltdb, goleveldb, gtreap and moss, and compares DocCount,
Document(id) for every id of the space, match-all ids, doc-id search and GetInternal with the replay
after the batches.  The theorems say what the replay itself guarantees, for every history.
-/
namespace Bleve.IndexSpec
open Bleve.KV

/-- how the history is split into batches does not matter -/
theorem partition_independent (s : Spec) (batches : List (List Op)) :
    applyBatches s batches = applyOps s batches.flatten :=
  List.foldl_flatten.symm

theorem applyOps_append (s : Spec) (a b : List Op) : applyOps s (a ++ b) = applyOps (applyOps s a) b :=
  List.foldl_append

/-- an empty batch changes nothing -/
theorem empty_batch (s : Spec) : applyBatch s [] = s := rfl

theorem document_applyOp (s : Spec) (op : Op) (id : Bytes) :
    (applyOp s op).document id =
      match op with
      | .index i d => if i = id then some d else s.document id
      | .delete i => if i = id then none else s.document id
      | _ => s.document id := by
  cases op <;> simp only [applyOp, Spec.document, get_put, get_del]

/-- **Last write wins.** After any operation list, `Document(id)` is what the last operation on
    `id` says (the document of the last Index, or nothing after a Delete), and the previous answer
    if the list never mentions `id`. -/
theorem document_last_write_wins (ops : List Op) : ∀ (s : Spec) (id : Bytes),
    (applyOps s ops).document id =
      match lastDocOp id ops with
      | some r => r
      | none => s.document id := by
  induction ops with
  | nil => intro s id; rfl
  | cons op rest ih =>
    intro s id
    rw [show applyOps s (op :: rest) = applyOps (applyOp s op) rest from rfl, ih]
    simp only [lastDocOp]
    cases lastDocOp id rest with
    | some r => rfl
    | none =>
      -- no later operation mentions `id`: what `op` itself says
      rw [document_applyOp]
      cases op with
      | index i d => by_cases h : i = id <;> simp only [h, beq_iff_eq, if_true, if_false]
      | delete i => by_cases h : i = id <;> simp only [h, beq_iff_eq, if_true, if_false]
      | _ => rfl

/-- both stores stay ordered maps with distinct keys under every history -/
theorem applyOps_sorted (ops : List Op) (s : Spec) (h : SortedKeys s.docs ∧ SortedKeys s.ints) :
    SortedKeys (applyOps s ops).docs ∧ SortedKeys (applyOps s ops).ints := by
  refine List.foldlRecOn (motive := fun s => SortedKeys s.docs ∧ SortedKeys s.ints) ops applyOp h fun s h op _ => ?_
  cases op with
  | index i d => exact ⟨put_sorted h.1, h.2⟩
  | delete i => exact ⟨del_sorted h.1, h.2⟩
  | setInternal k v => exact ⟨h.1, put_sorted h.2⟩
  | deleteInternal k => exact ⟨h.1, del_sorted h.2⟩

/-- match-all returns every live id exactly once; DocCount is the number of live ids -/
theorem liveIds_once (ops : List Op) : ((applyOps {} ops).liveIds).Nodup ∧
    (applyOps {} ops).docCount = (applyOps {} ops).liveIds.length :=
  ⟨sortedKeys_nodup (applyOps_sorted ops {} ⟨.nil, .nil⟩).1, (List.length_map ..).symm⟩

/-- `Document(id)` answers exactly for the live ids (what match-all and the doc-id search return) -/
theorem document_iff_live (ops : List Op) (id : Bytes) :
    ((applyOps {} ops).document id).isSome = true ↔ id ∈ (applyOps {} ops).liveIds := by
  rw [Spec.document, Spec.liveIds, get_isSome, List.contains_iff_mem]

/-- **Re-submitting a batch is harmless** (a retry after an ambiguous failure): replaying the same
    operation list a second time changes no `Document` answer. -/
theorem resubmit_idempotent (s : Spec) (ops : List Op) (id : Bytes) :
    (applyOps (applyOps s ops) ops).document id = (applyOps s ops).document id := by
  rw [document_last_write_wins ops (applyOps s ops) id]
  cases h : lastDocOp id ops with
  | none => rfl
  | some r =>
    rw [document_last_write_wins ops s id, h]

/-- operations on other ids never change `Document(id)`: the answer for an id depends only on the
    operations that mention it -/
theorem document_frame (s : Spec) (ops : List Op) (id : Bytes) (h : lastDocOp id ops = none) :
    (applyOps s ops).document id = s.document id := by
  rw [document_last_write_wins ops s id, h]

/-- two operation lists that agree on the last operation of every id yield the same answers — in
    particular any reordering of a batch that keeps the relative order of the operations on each id -/
theorem document_depends_on_last (s : Spec) (ops₁ ops₂ : List Op) (id : Bytes)
    (h : lastDocOp id ops₁ = lastDocOp id ops₂) :
    (applyOps s ops₁).document id = (applyOps s ops₂).document id := by
  rw [document_last_write_wins ops₁ s id, document_last_write_wins ops₂ s id, h]

example : (applyOps (applyOps {} [.index [1] [10], .delete [2]]) [.index [1] [10], .delete [2]]).document [1] = some [10] := by decide

example : (applyBatches {} [[.index [1] [10], .delete [1], .index [1] [11]], [], [.index [2] [20], .delete [3]]]).liveIds
    = [[1], [2]] := by decide

end Bleve.IndexSpec
