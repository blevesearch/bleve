import BleveModel.Model.Codec
import BleveModel.Lemmas.Codec
import BleveModel.Gen.MappingTables
/-!
# C16 — A mapping survives its JSON form: reopened indexes map documents identically

"For any valid index mapping, serialising it to JSON and parsing it back (which is what happens
between creating an index and every later Open) yields a mapping that validates, serialises to the
same JSON again, and maps every document to the same fields with the same types, options, analysers,
date formats and analysed terms as the original. No option is lost, defaulted differently or applied
to another field."

`Model/Codec.lean` is a table-driven model of a hand-written JSON codec (struct tags on the encoder
side, `case "key"` arms and presets on the decoder side).  `codec_roundtrip` holds for *every* table
that passes the decidable check `TableOK` and every record; the tables of `FieldMapping`,
`DocumentMapping` and `IndexMappingImpl` are regenerated from /repo's source on every run
(`Gen/MappingTables.lean`) and `TableOK` is evaluated on them by the kernel — dropping a `case`,
assigning a key to the wrong field, renaming a tag on one side, or making a field with a non-empty
preset `omitempty` turns one of the three `decide`s false.  `./check C16` additionally round-trips
random mapping trees through the real marshaller / parser and compares JSON and `MapDocument`
output, also through create / close / Open.
-/
namespace Bleve.Codec

/-- the round-trip theorem, for every well-formed table and every record -/
theorem roundtrip (t : Table) (hok : TableOK t = true) (preset r : Rec)
    (hp : ∀ i row, t.rows[i]? = some row → row.presetNonZero = false → preset i = 0)
    (i : Nat) (hi : i < t.rows.length) :
    decodeField t preset (encode t r) i = r i := codec_roundtrip t hok preset r hp i hi

/-- re-encoding the decoded record gives the same JSON object (fixpoint) -/
theorem reencode_fixpoint (t : Table) (hok : TableOK t = true) (preset r : Rec)
    (hp : ∀ i row, t.rows[i]? = some row → row.presetNonZero = false → preset i = 0) :
    encode t (fun i => if i < t.rows.length then decodeField t preset (encode t r) i else r i) = encode t r := by
  congr 1
  funext i
  split
  · next hi => exact codec_roundtrip t hok preset r hp i hi
  · rfl

/-! ## the tables extracted from the source are well formed

Fixed tables: `+kernel` leaves the evaluation to the kernel alone (plain `decide` evaluates in the
elaborator first and the kernel then evaluates again). -/

theorem fieldMapping_table_ok : TableOK Gen.fieldMappingTable = true := by decide +kernel
theorem documentMapping_table_ok : TableOK Gen.documentMappingTable = true := by decide +kernel
theorem indexMapping_table_ok : TableOK Gen.indexMappingTable = true := by decide +kernel

/-! ## non-vacuity: the check does reject broken tables -/

example : TableOK ⟨[⟨"a", true, true⟩], [("a", 0)]⟩ = false := by decide      -- omitempty with a non-empty preset
example : TableOK ⟨[⟨"a", false, false⟩, ⟨"b", true, false⟩], [("a", 0)]⟩ = false := by decide  -- missing arm
example : TableOK ⟨[⟨"a", false, false⟩, ⟨"b", true, false⟩], [("a", 1), ("b", 0)]⟩ = false := by decide  -- crossed
example : decodeField Gen.documentMappingTable (fun i => if i < 2 then 1 else 0)
    (encode Gen.documentMappingTable (fun i => if i == 4 then 7 else 0)) 4 = 7 := by decide

end Bleve.Codec
