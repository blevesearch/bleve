import BleveModel.Model.Phrase
import BleveModel.Model.Query
/-!
# C02, phrase queries: the matcher `findPhrasePaths` against its meaning

`Model/Phrase.lean` is the recursive search of `search/searcher/search_phrase.go` (alternatives per
part, placeholders, array positions, slop, locations used once per path).  Proved here, for every
field value and every phrase of single words and placeholders that starts with a word: without slop
the matcher finds a path exactly when, from some position on, every word of the phrase stands at its
offset (`phrasePaths_single_iff`).  For a phrase that also ends in a word this is the reading
`Model/Query.lean` gives a phrase clause (`phrase_gaps_query_matcher`, `phrase_query_matcher`), and
without placeholders it says that the words stand next to each other, in order, somewhere in the
value (`phrase_exact`).  That the Go function behaves like the model (also with slop, alternatives
and several array positions) is compared by `./check C02` through the verif export
`VerifFindPhrasePaths`.
-/
namespace Bleve.Phrase

/-! ### the term location map of a field value -/

/-- locations of term `t` in a field value given as its words (one array position), in order -/
def positions (t : Term) : List Term → Nat → List Loc
  | [], _ => []
  | w :: ws, i => if w == t then ⟨i + 1, 0⟩ :: positions t ws (i + 1) else positions t ws (i + 1)

/-- the term location map of a field value -/
def tlmOf (ws : List Term) : TLM := ws.eraseDups.map (fun t => (t, positions t ws 0))

theorem mem_positions {t : Term} {l : Loc} : ∀ {ws : List Term} {i : Nat},
    l ∈ positions t ws i ↔ ∃ k, ws[k]? = some t ∧ l = ⟨i + k + 1, 0⟩
  | [], _ => by simp [positions]
  | w :: ws, i => by
    -- `k = 0` is the head, `k + 1` a position of the tail
    rw [← Nat.or_exists_add_one, positions]
    simp only [List.getElem?_cons_succ, ← Nat.add_assoc, Nat.add_right_comm i _ 1, ← mem_positions (ws := ws)]
    by_cases h : w = t <;> simp [h]

theorem locsOf_tlmOf (ws : List Term) (t : Term) : locsOf (tlmOf ws) t = positions t ws 0 := by
  rw [locsOf, tlmOf, List.find?_map]
  cases h : ws.eraseDups.find? ((fun p => p.1 == t) ∘ fun u => (u, positions u ws 0)) with
  | some u => simp [show u = t by simpa using List.find?_some h]
  | none =>
    -- a word that does not occur has no positions
    have ht : ∀ k, ws[k]? ≠ some t := fun k hk => by
      simpa using List.find?_eq_none.mp h t (List.mem_eraseDups.mpr (List.mem_of_getElem? hk))
    simp [List.eq_nil_iff_forall_not_mem, mem_positions, ht]

theorem mem_locsOf {ws : List Term} {t : Term} {l : Loc} :
    l ∈ locsOf (tlmOf ws) t ↔ ∃ k, ws[k]? = some t ∧ l = ⟨k + 1, 0⟩ := by
  simp [locsOf_tlmOf, mem_positions]

/-! ### one step of the matcher -/

def single (ph : List Term) : List (List Term) := ph.map (fun t => [t])

theorem single_cons (t : Term) (ph : List Term) : single (t :: ph) = [t] :: single ph := rfl

theorem single_placeholder (t : Term) : isPlaceholder [t] = t.isEmpty := by
  cases t <;> simp [isPlaceholder]

theorem findPaths_gap {prevPos : Nat} (hp : 1 ≤ prevPos) (tlm : TLM) (cdr : List (List Term)) (ap : Nat)
    (p : Path) (slop : Int) :
    findPaths tlm ([[]] :: cdr) prevPos ap p slop = findPaths tlm cdr (prevPos + 1) ap p slop := by
  have hp0 : (prevPos == 0) = false := by simp; omega
  simp [findPaths, isPlaceholder, hp0]

theorem findPaths_word_ne_nil {tlm : TLM} {t : Term} (ht : t ≠ []) (cdr : List (List Term)) (prevPos ap : Nat)
    (p : Path) (slop : Int) :
    findPaths tlm ([t] :: cdr) prevPos ap p slop ≠ [] ↔
      ∃ i l s, (locsOf tlm t)[i]? = some l ∧ admits prevPos ap p slop t i l = some s ∧
        findPaths tlm cdr l.pos l.ap (p ++ [⟨t, i, l⟩]) s ≠ [] := by
  simp only [findPaths, single_placeholder, List.isEmpty_iff, ht, if_false, List.flatMap_cons, List.flatMap_nil,
    List.append_nil, ne_eq, List.flatMap_eq_nil_iff, Classical.not_forall]
  constructor
  · rintro ⟨⟨l, i⟩, hmem, h⟩
    cases hadm : admits prevPos ap p slop t i l with
    | none => simp [hadm] at h
    | some s => exact ⟨i, l, s, List.mem_zipIdx_iff_getElem?.mp hmem, hadm, by simpa [hadm] using h⟩
  · rintro ⟨i, l, s, hget, hadm, h⟩
    exact ⟨(l, i), List.mem_zipIdx_iff_getElem?.mpr hget, by simpa [hadm] using h⟩

theorem dist_zero_iff (prevPos pos : Nat) : dist prevPos pos = 0 ↔ pos = prevPos + 1 := by
  unfold dist; split <;> omega

theorem admits_zero {prevPos : Nat} (hp : 1 ≤ prevPos) (p : Path) (t : Term) (i : Nat) (l : Loc) (s : Int) :
    admits prevPos 0 p 0 t i l = some s ↔
      l = ⟨prevPos + 1, 0⟩ ∧ p.any (fun x => x.term == t && x.idx == i) = false ∧ s = 0 := by
  have hp0 : prevPos ≠ 0 := by omega
  rcases l with ⟨pos, ap⟩
  by_cases hap : ap = 0
  · by_cases hpos : pos = prevPos + 1
    · subst hap hpos
      simp [admits, (dist_zero_iff _ _).mpr rfl, eq_comm (a := (0 : Int))]
    · simp [admits, hp0, hap, hpos, mt (dist_zero_iff _ _).mp hpos]
  · simp [admits, hp0, hap]

theorem admits_first (ap : Nat) (slop : Int) (t : Term) (i : Nat) (l : Loc) :
    admits 0 ap [] slop t i l = some slop := by
  simp [admits]

/-- the invariant of the search without slop, which only moves forward: no location beyond `prevPos`
is on the path -/
def Fresh (tlm : TLM) (p : Path) (prevPos : Nat) : Prop :=
  ∀ t i l, (locsOf tlm t)[i]? = some l → prevPos < l.pos → p.any (fun x => x.term == t && x.idx == i) = false

theorem Fresh.snoc {tlm : TLM} {p : Path} {prevPos : Nat} {t : Term} {i : Nat} {l : Loc}
    (hf : Fresh tlm p prevPos) (hle : prevPos ≤ l.pos) (hget : (locsOf tlm t)[i]? = some l) :
    Fresh tlm (p ++ [⟨t, i, l⟩]) l.pos := by
  intro t' i' l' hget' hlt
  rw [List.any_append, hf t' i' l' hget' (Nat.lt_of_le_of_lt hle hlt), List.any_cons, List.any_nil]
  simp only [Bool.or_false, Bool.false_or, Bool.and_eq_false_imp, beq_iff_eq, beq_eq_false_iff_ne]
  rintro rfl rfl
  rw [hget] at hget'
  cases hget'
  exact absurd hlt (Nat.lt_irrefl _)

/-! ### what the matcher finds without slop -/

/-- every real word of the phrase stands in the value at its offset from (0-based) position `k`;
a placeholder asks for nothing, not even that the value reaches that far -/
def StandsAt (ph ws : List Term) (k : Nat) : Prop :=
  ∀ i t, ph[i]? = some t → t ≠ [] → ws[k + i]? = some t

theorem standsAt_cons {t : Term} {ph ws : List Term} {k : Nat} :
    StandsAt (t :: ph) ws k ↔ (t ≠ [] → ws[k]? = some t) ∧ StandsAt ph ws (k + 1) := by
  unfold StandsAt
  rw [← Nat.and_forall_add_one]
  simp only [List.getElem?_cons_zero, List.getElem?_cons_succ, Option.some.injEq, forall_eq', Nat.add_zero,
    Nat.add_right_comm k 1, ← Nat.add_assoc]

theorem findPaths_single_iff (ws : List Term) : ∀ (ph : List Term) (prevPos : Nat) (p : Path),
    1 ≤ prevPos → Fresh (tlmOf ws) p prevPos →
    (findPaths (tlmOf ws) (single ph) prevPos 0 p 0 ≠ [] ↔ StandsAt ph ws prevPos)
  | [], _, _, _, _ => by simp [single, findPaths, StandsAt]
  | t :: ph, prevPos, p, hpos, hfresh => by
    have ih := fun p' => findPaths_single_iff ws ph (prevPos + 1) p' (Nat.le_add_left 1 prevPos)
    rw [standsAt_cons, single_cons]
    by_cases ht : t = []
    · subst ht
      rw [findPaths_gap hpos, ih p fun t i l hl hlt => hfresh t i l hl (Nat.lt_of_succ_lt hlt)]
      simp
    · -- the word must stand right behind `prevPos`; that location is new to the path, which `hfresh` keeps
      -- at or before `prevPos`
      simp only [findPaths_word_ne_nil ht, admits_zero hpos]
      constructor
      · rintro ⟨i, _, _, hget, ⟨rfl, -, rfl⟩, h⟩
        obtain ⟨k, hk, hl⟩ := mem_locsOf.mp (List.mem_of_getElem? hget)
        obtain rfl : k = prevPos := by simpa using hl.symm
        exact ⟨fun _ => hk, (ih _ (hfresh.snoc (Nat.le_succ _) hget)).mp h⟩
      · rintro ⟨hw, h⟩
        obtain ⟨i, hget⟩ := List.mem_iff_getElem?.mp (mem_locsOf.mpr ⟨prevPos, hw ht, rfl⟩)
        exact ⟨i, _, _, hget, ⟨rfl, hfresh _ _ _ hget (Nat.lt_succ_self _), rfl⟩,
          (ih _ (hfresh.snoc (Nat.le_succ _) hget)).mpr h⟩

/-- **Without slop, the matcher finds a path for a phrase of words and placeholders that starts with
a word exactly when, from some position of the field value on, every word of the phrase stands at
its offset.** -/
theorem phrasePaths_single_iff (ws : List Term) (t0 : Term) (rest : List Term) (ht0 : t0 ≠ []) :
    phrasePaths (tlmOf ws) (single (t0 :: rest)) 0 ≠ [] ↔ ∃ k, StandsAt (t0 :: rest) ws k := by
  simp only [phrasePaths, single_cons, findPaths_word_ne_nil ht0, admits_first, Option.some.injEq, standsAt_cons]
  -- the first word may stand anywhere (`admits_first`); behind it the search is the one without slop
  have rest_iff := fun k i (hget : (locsOf (tlmOf ws) t0)[i]? = some ⟨k + 1, 0⟩) =>
    findPaths_single_iff ws rest (k + 1) _ (Nat.le_add_left 1 k)
      (Fresh.snoc (p := []) (fun _ _ _ _ _ => rfl) (Nat.zero_le _) hget)
  constructor
  · rintro ⟨i, l, _, hget, rfl, h⟩
    obtain ⟨k, hk, rfl⟩ := mem_locsOf.mp (List.mem_of_getElem? hget)
    exact ⟨k, fun _ => hk, (rest_iff k i hget).mp h⟩
  · rintro ⟨k, hw, h⟩
    obtain ⟨i, hget⟩ := List.mem_iff_getElem?.mp (mem_locsOf.mpr ⟨k, hw ht0, rfl⟩)
    exact ⟨i, _, _, hget, rfl, (rest_iff k i hget).mpr h⟩

/-! ### the phrase clause of the query model -/

open Bleve.Query (phraseAt phraseIn)

theorem phraseIn_iff_at (ts : List Term) :
    ∀ ws : List Term, phraseIn ts ws = true ↔ ∃ k, phraseAt ts (ws.drop k) = true
  | [] => by cases ts <;> simp [phraseIn, phraseAt]
  | w :: ws => by
    rw [← Nat.or_exists_add_one, phraseIn, Bool.or_eq_true, phraseIn_iff_at ts ws]
    simp

theorem phraseAt_drop_iff (ws : List Term) : ∀ (ts : List Term) (k : Nat),
    phraseAt ts (ws.drop k) = true ↔ ts.length ≤ (ws.drop k).length ∧ StandsAt ts ws k
  | [], k => by simp [phraseAt, StandsAt]
  | t :: ts, k => by
    rcases Nat.lt_or_ge k ws.length with h | h
    · rw [List.drop_eq_getElem_cons h, phraseAt, Bool.and_eq_true, phraseAt_drop_iff ws ts (k + 1), standsAt_cons,
        List.getElem?_eq_getElem h, and_left_comm]
      -- "placeholder or equal" is `t ≠ [] → ws[k] = t`
      simp only [Bool.or_eq_true, List.isEmpty_iff, beq_iff_eq, List.length_cons, Nat.add_le_add_iff_right,
        Option.some.injEq, Decidable.or_iff_not_imp_left, eq_comm (a := t) (b := ws[k])]
    · simp [List.drop_eq_nil_of_le h, phraseAt]

/-- the phrase does not end in a placeholder -/
def lastReal : List Term → Bool
  | [] => false
  | [t] => !t.isEmpty
  | _ :: t :: ts => lastReal (t :: ts)

theorem lastReal_iff : ∀ ts : List Term, lastReal ts = true ↔ ∃ t, ts.getLast? = some t ∧ t ≠ []
  | [] => by simp [lastReal]
  | [t] => by simp [lastReal]
  | _ :: t :: ts => by simp [lastReal, lastReal_iff (t :: ts)]

theorem StandsAt.fits {ts ws : List Term} {k : Nat} (hl : lastReal ts = true) (h : StandsAt ts ws k) :
    ts.length ≤ (ws.drop k).length := by
  obtain ⟨t, ht, hne⟩ := (lastReal_iff ts).mp hl
  rw [List.getLast?_eq_getElem?] at ht
  obtain ⟨hlt, -⟩ := List.getElem?_eq_some_iff.mp (h _ t ht hne)
  rw [List.length_drop]; omega

/-- **Phrases with gaps.**  For a phrase that starts and ends with a real word (placeholders for
removed words in between), a field value matches in the sense of `Model/Query.lean` exactly when
`findPhrasePaths` finds a path over the value's term locations. -/
theorem phrase_gaps_query_matcher (ws : List Term) (t0 : Term) (rest : List Term) (ht0 : t0 ≠ [])
    (hl : lastReal (t0 :: rest) = true) :
    phraseIn (t0 :: rest) ws = true ↔ phrasePaths (tlmOf ws) (single (t0 :: rest)) 0 ≠ [] := by
  rw [phrasePaths_single_iff ws t0 rest ht0, phraseIn_iff_at]
  -- the query model also wants a word under every placeholder; below a last real word there is one
  exact exists_congr fun k => (phraseAt_drop_iff ws _ k).trans (and_iff_right_of_imp (StandsAt.fits hl))

/-- **The phrase clause of the query model and the matcher agree**: for a phrase of real words, a
field value matches in the sense of `Model/Query.lean` exactly when `findPhrasePaths` finds a path over
the value's term locations. -/
theorem phrase_query_matcher (ws : List Term) (t0 : Term) (rest : List Term) (hne : ∀ t ∈ t0 :: rest, t ≠ []) :
    phraseIn (t0 :: rest) ws = true ↔ phrasePaths (tlmOf ws) (single (t0 :: rest)) 0 ≠ [] :=
  phrase_gaps_query_matcher ws t0 rest (hne t0 List.mem_cons_self)
    ((lastReal_iff _).mpr ⟨_, List.getLast?_eq_some_getLast (List.cons_ne_nil _ _), hne _ (List.getLast_mem _)⟩)

theorem phraseAt_iff_prefix : ∀ (ts : List Term), (∀ t ∈ ts, t ≠ []) →
    ∀ ws : List Term, phraseAt ts ws = ts.isPrefixOf ws
  | [], _, _ => by simp [phraseAt]
  | _ :: _, _, [] => by simp [phraseAt]
  | t :: ts, hne, w :: ws => by
    have ht : t.isEmpty = false := by simpa using hne t List.mem_cons_self
    simp only [phraseAt, List.isPrefixOf, ht, Bool.false_or,
      phraseAt_iff_prefix ts (fun u hu => hne u (List.mem_cons_of_mem _ hu))]

theorem phraseIn_iff (ts : List Term) (hne : ∀ t ∈ ts, t ≠ []) (ws : List Term) :
    phraseIn ts ws = true ↔ ∃ k, ts.isPrefixOf (ws.drop k) = true := by
  simp only [phraseIn_iff_at ts, phraseAt_iff_prefix ts hne]

/-- **An exact phrase (no slop, no alternatives, no placeholders) is found by the matcher exactly when
its words stand next to each other, in order, somewhere in the field value.** -/
theorem phrase_exact (ws : List Term) (t0 : Term) (rest : List Term) (hne : ∀ t ∈ t0 :: rest, t ≠ []) :
    phrasePaths (tlmOf ws) (single (t0 :: rest)) 0 ≠ [] ↔
      ∃ k, (t0 :: rest).isPrefixOf (ws.drop k) = true :=
  (phrase_query_matcher ws t0 rest hne).symm.trans (phraseIn_iff _ hne ws)

/-- non-vacuity: "b c" in "a b c b", and not "c a"; one wildcard between "a" and "c"; slop 1 lets "a c" match -/
example : phrasePaths (tlmOf [[1], [2], [3], [2]]) (single [[2], [3]]) 0 ≠ [] := by decide
example : phrasePaths (tlmOf [[1], [2], [3], [2]]) (single [[3], [1]]) 0 = [] := by decide
example : phrasePaths (tlmOf [[1], [2], [3], [2]]) [[[1]], [], [[3]]] 0 ≠ [] := by decide
example : phrasePaths (tlmOf [[1], [2], [3], [2]]) (single [[1], [3]]) 0 = [] ∧
    phrasePaths (tlmOf [[1], [2], [3], [2]]) (single [[1], [3]]) 1 ≠ [] := by decide
example : phrasePaths (tlmOf [[1], [2], [3], [2]]) (single [[1], [], [3]]) 0 ≠ [] ∧
    phraseIn [[1], [], [3]] [[1], [2], [3], [2]] = true := by decide

end Bleve.Phrase
