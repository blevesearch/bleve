import BleveModel.Model.Highlight
/-!
# C19, highlighting: fragmenter, `MergeOverlapping`, formatters

Theorems about the highlighting model (property C19, second sentence), for every stored value,
every fragment size and every list of term locations, well formed or not.  In order: the three
`unicode/utf8` facts the fragmenter leans on (a valid rune is a non-continuation byte followed by
continuation bytes, hence `back_lockstep`); each loop of the fragmenter keeps its cursor inside the
value, so no slice expression panics (`fragment_ok`); the formatter's pieces tile the fragment and its
marked pieces are locations handed in (`format_correct`); what `MergeOverlapping` leaves is a union of
original locations (`merge_entries`, `merge_span_union`, `merge_never_shortens`); html escaping can be
undone; the pipeline fragment → merge → format (`highlight_marks`, `highlight_no_panic`).
-/
namespace Bleve.Highlight

/-! ### unicode/utf8 facts the fragmenter depends on -/

theorem decodeRune_size (q : List Nat) (h : q ≠ []) :
    1 ≤ (decodeRune q).2 ∧ (decodeRune q).2 ≤ q.length := by
  -- every branch returns a literal size, at most the number of bytes it has matched
  fun_cases decodeRune q <;> simp at h ⊢

theorem decodeRune_drop {orig : List Nat} {e : Nat} (h : e < orig.length) :
    e + (decodeRune (orig.drop e)).2 ≤ orig.length := by
  have := decodeRune_size (orig.drop e) (by simp; omega)
  simp only [List.length_drop] at this
  omega

/-- the second byte of a 3- or 4-byte rune is checked against a sub-range of the continuation bytes -/
theorem isCont_of_range {lo hi b : Nat} (hlo : 0x80 ≤ lo) (hhi : hi ≤ 0xBF)
    (h : (decide (lo ≤ b) && decide (b ≤ hi)) = true) : isCont b = true := by
  simp only [isCont, Bool.and_eq_true, decide_eq_true_eq] at h ⊢; omega

theorem decodeRune_valid {q : List Nat} {sz : Nat} (h : decodeRune q = (false, sz)) :
    isCont (q.getD 0 0) = false ∧ ∀ j, 1 ≤ j → j < sz → isCont (q.getD j 0) = true := by
  revert h
  fun_cases decodeRune q <;> simp only [Prod.mk.injEq, Bool.true_eq_false, false_and, false_imp_iff]
  all_goals
    rintro ⟨-, rfl⟩
    refine ⟨by simp only [List.getD_cons_zero, isCont, Bool.and_eq_false_iff, decide_eq_false_iff_not]; omega,
      fun j h1 h2 => ?_⟩
  -- what is left are the four valid forms, of 1 to 4 bytes
  case case2 => omega  -- one byte below 0x80
  case case4 hb1 =>  -- two bytes
    obtain rfl : j = 1 := by omega
    exact hb1
  case case7 hb1 hb2 =>  -- three bytes: the second is checked against a sub-range `[lo, hi]`, let-bound
    obtain rfl | rfl : j = 1 ∨ j = 2 := by omega
    · -- both alternatives of `lo` are ≥ 0x80, both of `hi` ≤ 0xBF
      refine isCont_of_range ?_ ?_ hb1 <;> simp +zetaDelta only <;> split <;> decide
    · exact hb2
  case case11 hb1 hb2 hb3 =>  -- four bytes, the second again in a sub-range
    obtain rfl | rfl | rfl : j = 1 ∨ j = 2 ∨ j = 3 := by omega
    · refine isCont_of_range ?_ ?_ hb1 <;> simp +zetaDelta only <;> split <;> decide
    · exact hb2
    · exact hb3

theorem decodeLastRune_valid {p : List Nat} {a : Nat} (h : decodeLastRune p = (false, a)) :
    ∃ i, i + a = p.length ∧ 1 ≤ a ∧ decodeRune (p.drop i) = (false, a) ∧ isCont (p.getD i 0) = false ∧
      ∀ j, i < j → j < p.length → isCont (p.getD j 0) = true := by
  revert h
  fun_cases decodeLastRune p <;> simp +zetaDelta only at *
  case case1 | case3 => rintro ⟨⟩  -- empty input, or the rune found does not end at the end: RuneError
  case case2 hne hlt =>
    -- a last byte below 0x80 is a rune by itself
    rintro ⟨⟩
    have hl : p.length - 1 < p.length := Nat.sub_one_lt (by simpa using hne)
    refine ⟨p.length - 1, by omega, Nat.le_refl 1, ?_, ?_, fun j h1 h2 => by omega⟩
    · -- what is left from there on is that one byte
      rw [List.getD_eq_getElem?_getD, List.getElem?_eq_getElem hl, Option.getD_some] at hlt
      rw [List.drop_eq_getElem_cons hl]
      unfold decodeRune
      exact if_pos hlt
    · simp only [isCont, Bool.and_eq_false_iff, decide_eq_false_iff_not]; omega
  case case4 hend =>
    -- the rune decoded from `lastStart p` ends exactly at the end of `p`
    intro hr
    have hsz := decodeRune_size (p.drop (lastStart p)) (by intro hc; rw [hc] at hr; cases hr)
    have hv := decodeRune_valid hr
    simp only [hr, bne_iff_ne, Decidable.not_not] at hend hsz
    simp only [List.getD_eq_getElem?_getD, List.getElem?_drop] at hv
    refine ⟨lastStart p, hend, hsz.1, hr, hv.1, fun j h1 h2 => ?_⟩
    have := hv.2 (j - lastStart p) (by omega) (by omega)
    rwa [Nat.add_sub_of_le (Nat.le_of_lt h1)] at this

/-- two cursors `s ≤ e`, each stepped back over the valid rune that ends there, keep their order: this
is what keeps `start ≤ end` in the fragmenter's third loop -/
theorem back_lockstep (orig : List Nat) (s e a b : Nat) (hse : s ≤ e) (hen : e ≤ orig.length)
    (ha : decodeLastRune (orig.take s) = (false, a)) (hb : decodeLastRune (orig.take e) = (false, b)) :
    a ≤ s ∧ b ≤ e ∧ s - a ≤ e - b := by
  obtain ⟨i, hi, ha1, -, hi0, -⟩ := decodeLastRune_valid ha
  obtain ⟨j, hj, -, -, -, hjc⟩ := decodeLastRune_valid hb
  rw [List.length_take_of_le (Nat.le_trans hse hen)] at hi
  rw [List.length_take_of_le hen] at hj hjc
  have hij : i ≤ j := by
    -- otherwise the rune ending at `s` would start on a continuation byte of the rune ending at `e`
    apply Decidable.byContradiction
    intro hc
    have := hjc i (by omega) (by omega)
    rw [List.getD_eq_getElem?_getD, List.getElem?_take_of_lt (by omega)] at this hi0
    exact Bool.false_ne_true (hi0.symm.trans this)
  omega

/-! ### the fragmenter stays inside the value and never panics -/

theorem fwd_bounds {orig : List Nat} {k e e' k' : Nat} (he : e ≤ orig.length)
    (h : fwd orig k e = some (e', k')) : e ≤ e' ∧ e' ≤ orig.length := by
  fun_induction fwd orig k e
  case case1 | case4 => cases h; exact ⟨Nat.le_refl _, he⟩  -- `k = 0`, or `e` is at the end: `e` is returned
  case case2 => cases h  -- RuneError: `none`
  case case3 hlt _ _ ih =>  -- `e` moves on over a valid rune
    have := ih (decodeRune_drop hlt) h
    exact ⟨Nat.le_trans (Nat.le_add_right _ _) this.1, this.2⟩

theorem fwdStop_bounds (orig : List Nat) (k e : Nat) (he : e ≤ orig.length) :
    e ≤ fwdStop orig k e ∧ fwdStop orig k e ≤ orig.length := by
  fun_induction fwdStop orig k e
  case case3 hlt _ _ ih =>  -- `e` moves on over a valid rune
    have := ih (decodeRune_drop hlt)
    exact ⟨Nat.le_trans (Nat.le_add_right _ _) this.1, this.2⟩
  all_goals exact ⟨Nat.le_refl _, he⟩  -- every other branch returns `e`

theorem back_bounds {orig : List Nat} {mb k s s' : Nat} (h : back orig mb k s = .ok s') : s' ≤ s := by
  fun_induction back orig mb k s
  case case4 ih => exact Nat.le_trans (ih h) (Nat.sub_le _ _)  -- `s` moves back over a valid rune
  all_goals cases h  -- every other branch bails out or returns `s`
  all_goals exact Nat.le_refl _

theorem back_no_panic (orig : List Nat) (mb k s : Nat) : back orig mb k s ≠ .panic := by
  fun_induction back orig mb k s
  case case4 ih => exact ih  -- `s` moves back over a valid rune
  all_goals nofun

theorem minEnd_bounds (e : Nat) (ls : List Loc) (m : Int) (h1 : 0 ≤ m) (h2 : m ≤ e) :
    0 ≤ minEnd e ls m ∧ minEnd e ls m ≤ e := by
  fun_induction minEnd e ls m
  case case1 | case3 => exact ⟨h1, h2⟩  -- no location left, or one that ends beyond `e`: `m` is returned
  case case2 ih => exact ih h1 h2  -- a malformed location is passed over
  case case4 hw hs ih =>  -- a well-formed location ending at or before `e`: its end is the new `m`
    simp only [Bool.or_eq_true, decide_eq_true_eq, not_or, Int.not_lt] at hw
    exact ih (Int.le_trans hw.1 hw.2) (Int.not_lt.1 hs)

theorem center_ok (orig : List Nat) (k s e : Nat) (h1 : s ≤ e) (h2 : e ≤ orig.length) :
    center orig k s e ≠ .panic ∧
    ∀ s' e', center orig k s e = .ok (s', e') → s' ≤ e' ∧ e' ≤ orig.length := by
  fun_induction center orig k s e
  case case1 => exact ⟨nofun, fun _ _ h => by cases h; exact ⟨h1, h2⟩⟩  -- `k = 0`
  case case2 | case4 => omega  -- the two slice expressions: in range since `s ≤ e ≤ length`
  case case3 | case5 => exact ⟨nofun, nofun⟩  -- RuneError before `s` or before `e`: bail
  case case6 _ _ hr1 _ _ hr2 ih =>  -- both ends move back over a valid rune and keep their order
    have := back_lockstep orig _ _ _ _ h1 h2 (Prod.ext (Bool.eq_false_iff.2 hr1) rfl)
      (Prod.ext (Bool.eq_false_iff.2 hr2) rfl)
    exact ih this.2.2 (Nat.le_trans (Nat.sub_le _ _) h2)

theorem slice_eq_none (orig : List Nat) (a b : Int) :
    slice orig a b = none ↔ ¬(0 ≤ a ∧ a ≤ b ∧ b ≤ orig.length) := by
  unfold slice; split <;> simp [*]

theorem slice_eq_some {orig : List Nat} {a b : Int} (h1 : 0 ≤ a) (h2 : a ≤ b) (h3 : b ≤ orig.length) :
    slice orig a b = some ((orig.drop a.toNat).take (b.toNat - a.toNat)) :=
  if_pos ⟨h1, h2, h3⟩

theorem fragOne_ok {orig : List Nat} (size mb : Nat) {tl : Loc} (rest : List Loc)
    (hg : 0 ≤ tl.start ∧ tl.start ≤ tl.stop ∧ tl.stop ≤ orig.length) :
    fragOne orig size mb tl rest ≠ .panic ∧
    ∀ f, fragOne orig size mb tl rest = .ok f → f.start ≤ f.stop ∧ f.stop ≤ orig.length := by
  unfold fragOne
  split  -- the first loop
  · exact ⟨nofun, nofun⟩
  next e k hf =>
    have he := fwd_bounds (by omega) hf
    split  -- the second loop
    · exact ⟨nofun, nofun⟩
    · exact absurd ‹_› (back_no_panic _ _ _ _)
    next s hb =>
      -- `s ≤ tl.start ≤ e ≤ length`, so no slice expression is out of range
      have hs := back_bounds hb
      have := minEnd_bounds e (tl :: rest) e (Int.natCast_nonneg e) (Int.le_refl _)
      have hc := fun k => center_ok orig k s e (Nat.le_trans hs he.1) he.2
      dsimp only
      split  -- `orig[m:e]`
      next h => rw [slice_eq_none] at h; omega
      split  -- `orig[maxbegin:s]`, taken only if `maxbegin ≤ s`
      next h =>
        split at h
        · rw [Option.map_eq_none_iff, slice_eq_none] at h; omega
        · cases h
      split  -- the third loop
      · exact ⟨nofun, nofun⟩
      · exact absurd ‹_› (hc _).1
      next s' e' h => exact ⟨nofun, by rintro f ⟨⟩; exact (hc _).2 _ _ h⟩

theorem fragLoop_ok (orig : List Nat) (size : Nat) (ot : List Loc) (mb : Nat) :
    ∃ fs, fragLoop orig size ot mb = .ok fs ∧ ∀ f ∈ fs, f.start ≤ f.stop ∧ f.stop ≤ orig.length := by
  -- a location that passes the guard of the loop lies inside the value
  have wf {tl : Loc} (hg : ¬(tl.start < 0 || tl.start > tl.stop || tl.stop > orig.length) = true) :
      0 ≤ tl.start ∧ tl.start ≤ tl.stop ∧ tl.stop ≤ orig.length := by
    simpa only [Bool.or_eq_true, decide_eq_true_eq, not_or, Int.not_lt, and_assoc] using hg
  fun_induction fragLoop orig size ot mb
  case case1 => exact ⟨[], rfl, by simp⟩
  -- the result is that of the rest: the location fails the guard, its round bails out, or the rest is not `.ok`
  case case2 ih | case4 ih | case6 ih => exact ih
  case case3 hg hp => exact absurd hp (fragOne_ok _ _ _ (wf hg)).1  -- the round panics
  case case5 hg f hf fs hfs ih =>  -- the round yields `f`, the rest `fs`
    obtain ⟨fs', hfs', hb⟩ := ih
    cases hfs.symm.trans hfs'
    exact ⟨_, rfl, List.forall_mem_cons.2 ⟨(fragOne_ok _ _ _ (wf hg)).2 f hf, hb⟩⟩

/-- **The simple fragmenter never panics and every fragment lies inside the stored value**, for every
byte string, every fragment size and every list of term locations (negative, backwards, beyond the
value, unsorted, overlapping ...). -/
theorem fragment_ok (orig : List Nat) (size : Int) (ot : List Loc) :
    ∃ fs, fragment orig size ot = .ok fs ∧ ∀ f ∈ fs, f.start ≤ f.stop ∧ f.stop ≤ orig.length := by
  unfold fragment
  split
  · exact ⟨_, rfl, List.forall_mem_singleton.2
      ⟨Nat.zero_le _, (fwdStop_bounds orig size.toNat 0 (Nat.zero_le _)).2⟩⟩
  · exact fragLoop_ok orig size.toNat ot 0

/-! ### formatters: the pieces tile the fragment, marked pieces are term locations -/

/-- consecutive pieces from `a` to `b`, none of them backwards -/
def Tiles : List Piece → Int → Int → Prop
  | [], a, b => a = b
  | p :: ps, a, b => p.start = a ∧ p.start ≤ p.stop ∧ Tiles ps p.stop b

theorem Tiles.le {ps : List Piece} {a b : Int} (h : Tiles ps a b) : a ≤ b := by
  induction ps generalizing a with
  | nil => exact Int.le_of_eq h
  | cons p ps ih => obtain ⟨rfl, hle, h⟩ := h; exact Int.le_trans hle (ih h)

theorem formatGo_tiles (fstop : Int) (fap : Nat) (ls : List (Option Loc)) (curr : Int)
    (h : curr ≤ fstop) : Tiles (formatGo fstop fap ls curr) curr fstop := by
  fun_induction formatGo fstop fap ls curr
  -- the list is used up, or a location ends beyond the fragment: the one piece `[curr, fstop)`
  case case1 | case5 => exact ⟨rfl, h, rfl⟩
  -- a skipped entry: `curr` stays
  case case2 ih | case3 ih | case4 ih => exact ih h
  -- `[curr, tl.start)`, `[tl.start, tl.stop)`, then on from `tl.stop`, which the last guard keeps `≤ fstop`
  case case6 hg hs ih =>
    simp only [Bool.or_eq_true, decide_eq_true_eq, not_or, Int.not_lt, gt_iff_lt] at hg hs
    exact ⟨rfl, hg.1, rfl, hg.2, ih hs⟩

theorem formatGo_marks {fstop : Int} {fap : Nat} {ls : List (Option Loc)} {curr : Int} {p : Piece}
    (hp : p ∈ formatGo fstop fap ls curr) (hm : p.marked = true) :
    ∃ tl, some tl ∈ ls ∧ tl.ap = fap ∧ tl.start = p.start ∧ tl.stop = p.stop ∧ curr ≤ p.start ∧
      p.start ≤ p.stop ∧ p.stop ≤ fstop := by
  fun_induction formatGo fstop fap ls curr
  -- the list is used up, or a location ends beyond the fragment: one unmarked piece
  case case1 | case5 => cases List.mem_singleton.1 hp; cases hm
  -- a nil entry, another array position, a location that is malformed or starts before `curr`: skipped
  case case2 ih | case3 ih | case4 ih =>
    obtain ⟨tl, h, r⟩ := ih hp
    exact ⟨tl, List.mem_cons_of_mem _ h, r⟩
  -- `[curr, tl.start)` unmarked, `[tl.start, tl.stop)` marked, then on from `tl.stop`
  case case6 tl ls curr hap hg hs ih =>
    simp only [bne_iff_ne, Decidable.not_not, Bool.or_eq_true, decide_eq_true_eq, not_or, Int.not_lt,
      gt_iff_lt] at hap hg hs
    rcases List.mem_cons.1 hp with rfl | hp
    · cases hm
    rcases List.mem_cons.1 hp with rfl | hp
    · exact ⟨tl, List.mem_cons_self, hap, rfl, rfl, hg.1, hg.2, hs⟩
    · obtain ⟨a, h, ha, hs', he', hc, r⟩ := ih hp
      exact ⟨a, List.mem_cons_of_mem _ h, ha, hs', he', Int.le_trans (Int.le_trans hg.1 hg.2) hc, r⟩

theorem slice_append {orig : List Nat} {a m b : Int} (h0 : 0 ≤ a) (h1 : a ≤ m) (h2 : m ≤ b)
    (h3 : b ≤ orig.length) :
    ∃ x y, slice orig a m = some x ∧ slice orig m b = some y ∧ slice orig a b = some (x ++ y) := by
  refine ⟨_, _, slice_eq_some h0 h1 (Int.le_trans h2 h3), slice_eq_some (Int.le_trans h0 h1) h2 h3, ?_⟩
  have ham := Int.toNat_le_toNat h1
  have hmb := Int.toNat_le_toNat h2
  -- `b - a` bytes from `a` on are `m - a` bytes, then `b - m` more; dropping `a`, then `m - a`, is dropping `m`
  have e : b.toNat - a.toNat = (m.toNat - a.toNat) + (b.toNat - m.toNat) := by
    rw [Nat.add_comm, Nat.sub_add_sub_cancel hmb ham]
  rw [slice_eq_some h0 (Int.le_trans h1 h2) h3, e, List.take_add, List.drop_drop, Nat.add_sub_of_le ham]

theorem tiles_plain {orig : List Nat} {ps : List Piece} {a b : Int} (h0 : 0 ≤ a) (h3 : b ≤ orig.length)
    (ht : Tiles ps a b) : plainOf orig ps = slice orig a b := by
  induction ps generalizing a with
  | nil => cases ht; simp [plainOf, slice_eq_some h0 (Int.le_refl _) h3]
  | cons p ps ih =>
    obtain ⟨rfl, hle, ht⟩ := ht
    obtain ⟨x, y, hx, hy, hxy⟩ := slice_append h0 hle ht.le h3
    simp only [plainOf, ih (Int.le_trans h0 hle) ht, hx, hy, hxy]

theorem tiles_render {orig : List Nat} (esc : Bool) (before after : List Nat) {ps : List Piece} {a b : Int}
    (h0 : 0 ≤ a) (h3 : b ≤ orig.length) (ht : Tiles ps a b) :
    ∃ out, render orig esc before after ps = some out := by
  induction ps generalizing a with
  | nil => exact ⟨[], rfl⟩
  | cons p ps ih =>
    obtain ⟨rfl, hle, ht⟩ := ht
    obtain ⟨out, ho⟩ := ih (Int.le_trans h0 hle) ht
    simp only [render, slice_eq_some h0 hle (Int.le_trans ht.le h3), ho]
    exact ⟨_, rfl⟩

/-- **Formatting a fragment that lies inside the value never panics; with the markup removed the
result is exactly the fragment's bytes; every marked span is a term location handed to Format**
(same array position, inside the fragment) — for any list of term locations, nil entries and
malformed ones included. -/
theorem format_correct (orig : List Nat) (f : Frag) (fap : Nat) (ls : List (Option Loc))
    (esc : Bool) (before after : List Nat) (hf : f.start ≤ f.stop ∧ f.stop ≤ orig.length) :
    (∃ out, render orig esc before after (format f fap ls) = some out) ∧
    plainOf orig (format f fap ls) = slice orig f.start f.stop ∧
    ∀ p ∈ format f fap ls, p.marked = true →
      ∃ tl, some tl ∈ ls ∧ tl.ap = fap ∧ tl.start = p.start ∧ tl.stop = p.stop ∧
        (f.start : Int) ≤ p.start ∧ p.stop ≤ f.stop := by
  have h0 := Int.natCast_nonneg f.start
  have h3 := Int.ofNat_le.2 hf.2
  have ht := formatGo_tiles (f.stop : Int) fap ls (f.start : Int) (Int.ofNat_le.2 hf.1)
  refine ⟨tiles_render esc before after h0 h3 ht, tiles_plain h0 h3 ht, ?_⟩
  intro p hp hm
  obtain ⟨tl, h1, h2, hs, he, hb1, -, hb2⟩ := formatGo_marks hp hm
  exact ⟨tl, h1, h2, hs, he, hb1, hb2⟩

/-! ### merging overlapping term locations -/

/-- every byte offset of `[a, b)` lies in a location of `ls` with array position `ap` -/
def Covered (ls : List Loc) (ap : Nat) (a b : Int) : Prop :=
  ∀ x, a ≤ x → x < b → ∃ t ∈ ls, t.ap = ap ∧ t.start ≤ x ∧ x < t.stop

theorem mergeTail_overlap {l0 tl : Loc} (h : overlaps l0 tl = true) (ts : List Loc) :
    mergeTail l0 (tl :: ts) =
      ((mergeTail { l0 with stop := max l0.stop tl.stop } ts).1,
        none :: (mergeTail { l0 with stop := max l0.stop tl.stop } ts).2) := by
  have : (if tl.stop > l0.stop then tl.stop else l0.stop) = max l0.stop tl.stop := by omega
  simp only [mergeTail, h, if_true, this]

theorem mergeTail_disjoint {l0 tl : Loc} (h : overlaps l0 tl = false) (ts : List Loc) :
    mergeTail l0 (tl :: ts) = ((mergeTail l0 ts).1, some tl :: (mergeTail l0 ts).2) := by
  simp [mergeTail, h]

theorem overlaps_iff {a b : Loc} : overlaps a b = true ↔
    a.ap = b.ap ∧ (a.start ≤ b.start ∧ b.start < a.stop ∨ b.start ≤ a.start ∧ a.start < b.stop) := by
  simp [overlaps]

/-- `mergeTail` returns `l0` with its stop raised.  What holds of `l0.stop` and still holds when an
overlapping entry of `ts` is absorbed holds of the stop returned. -/
theorem mergeTail_inv {P : Int → Prop} {l0 : Loc} {ts : List Loc} (h0 : P l0.stop)
    (step : ∀ s, ∀ tl ∈ ts, overlaps { l0 with stop := s } tl = true → P s → P (max s tl.stop)) :
    (mergeTail l0 ts).1.start = l0.start ∧ (mergeTail l0 ts).1.ap = l0.ap ∧ P (mergeTail l0 ts).1.stop := by
  induction ts generalizing l0 with
  | nil => exact ⟨rfl, rfl, h0⟩
  | cons tl ts ih =>
    have step' := fun s t ht => step s t (List.mem_cons_of_mem _ ht)
    cases hov : overlaps l0 tl
    · rw [mergeTail_disjoint hov]
      exact ih h0 step'
    · rw [mergeTail_overlap hov]
      exact ih (step l0.stop tl List.mem_cons_self hov h0) step'

theorem mergeTail_fst (l0 : Loc) (ts : List Loc) :
    (mergeTail l0 ts).1.start = l0.start ∧ (mergeTail l0 ts).1.ap = l0.ap ∧
    l0.stop ≤ (mergeTail l0 ts).1.stop :=
  mergeTail_inv (P := (l0.stop ≤ ·)) (Int.le_refl _) fun _ _ _ _ h => Int.le_trans h (Int.le_max_left _ _)

theorem mergeTail_stop (l0 : Loc) (ts : List Loc) : ∃ t ∈ l0 :: ts, t.stop = (mergeTail l0 ts).1.stop := by
  refine (mergeTail_inv (P := fun s => ∃ t ∈ l0 :: ts, t.stop = s) ⟨l0, List.mem_cons_self, rfl⟩ ?_).2.2
  intro s tl htl _ h
  -- the enlarged entry ends where it ended before or where `tl` ends
  rcases Int.le_total s tl.stop with hle | hle
  · exact ⟨tl, List.mem_cons_of_mem _ htl, (Int.max_eq_right hle).symm⟩
  · rwa [Int.max_eq_left hle]

theorem mergeTail_covered {l0 : Loc} {ts : List Loc} {x : Int} (h1 : l0.start ≤ x)
    (h2 : x < (mergeTail l0 ts).1.stop) :
    ∃ t ∈ l0 :: ts, t.ap = l0.ap ∧ t.start ≤ x ∧ x < t.stop ∧ t.stop ≤ (mergeTail l0 ts).1.stop := by
  refine (mergeTail_inv
    (P := fun s => x < s → ∃ t ∈ l0 :: ts, t.ap = l0.ap ∧ t.start ≤ x ∧ x < t.stop ∧ t.stop ≤ s)
    (fun h => ⟨l0, List.mem_cons_self, rfl, h1, h, Int.le_refl _⟩) ?_).2.2 h2
  intro s tl htl hov ih hx
  by_cases hs : x < s
  · obtain ⟨t, ht, hap, ha, hb, hc⟩ := ih hs
    exact ⟨t, ht, hap, ha, hb, Int.le_trans hc (Int.le_max_left _ _)⟩
  · -- a byte the entry has gained by absorbing `tl` lies in `tl`
    simp only [overlaps_iff] at hov
    exact ⟨tl, List.mem_cons_of_mem _ htl, hov.1.symm, by omega, by omega, Int.le_max_right _ _⟩

/-- slots and locations line up: entry `i` of the result stands for `ts[i]` -/
theorem mergeTail_length (l0 : Loc) (ts : List Loc) : (mergeTail l0 ts).2.length = ts.length := by
  induction ts generalizing l0 with
  | nil => rfl
  | cons tl ts ih =>
    cases hov : overlaps l0 tl
    · rw [mergeTail_disjoint hov, List.length_cons, ih, List.length_cons]
    · rw [mergeTail_overlap hov, List.length_cons, ih, List.length_cons]

theorem mergeTail_some {l0 : Loc} {ts : List Loc} {t : Loc} (h : some t ∈ (mergeTail l0 ts).2) : t ∈ ts := by
  induction ts generalizing l0 with
  | nil => cases h
  | cons tl ts ih =>
    cases hov : overlaps l0 tl
    · rw [mergeTail_disjoint hov] at h
      rcases List.mem_cons.1 h with h | h
      · exact Option.some.inj h ▸ List.mem_cons_self
      · exact List.mem_cons_of_mem _ (ih h)
    · rw [mergeTail_overlap hov] at h
      exact List.mem_cons_of_mem _ (ih ((List.mem_cons.1 h).resolve_left nofun))

theorem mergeTail_none {l0 : Loc} {ts : List Loc} {i : Nat} {t : Loc} (hi : ts[i]? = some t)
    (hn : (mergeTail l0 ts).2[i]? = some none) : t.ap = l0.ap ∧ t.stop ≤ (mergeTail l0 ts).1.stop := by
  induction ts generalizing l0 i with
  | nil => cases hi
  | cons tl ts ih =>
    cases hov : overlaps l0 tl
    · rw [mergeTail_disjoint hov] at hn ⊢
      cases i with
      | zero => cases hn
      | succ i => exact ih hi hn
    · rw [mergeTail_overlap hov] at hn ⊢
      cases i with
      | zero =>
        -- `t` is absorbed here: the stop is raised to at least `t.stop` and does not fall afterwards
        cases hi
        exact ⟨(overlaps_iff.1 hov).1.symm, Int.le_trans (Int.le_max_right _ _) (mergeTail_fst _ ts).2.2⟩
      | succ i => exact ih hi hn

/-- **What `MergeOverlapping` leaves in the list**: every remaining entry starts where an original
location starts, ends where an original location ends, and every byte of it lies in an original
location of the same array position — a merged span is a union of overlapping matched locations,
never a piece no location accounts for. -/
theorem merge_entries (ls : List Loc) (m : Loc) (hm : some m ∈ mergeOverlapping ls) :
    (∃ t ∈ ls, t.start = m.start ∧ t.ap = m.ap) ∧ (∃ t ∈ ls, t.stop = m.stop) ∧
    Covered ls m.ap m.start m.stop := by
  cases ls with
  | nil => simp [mergeOverlapping] at hm
  | cons l0 ts =>
    obtain ⟨h1, h2, _⟩ := mergeTail_fst l0 ts
    simp only [mergeOverlapping, List.mem_cons, Option.some.injEq] at hm
    rcases hm with rfl | hm
    · refine ⟨⟨l0, List.mem_cons_self, h1.symm, h2.symm⟩, mergeTail_stop l0 ts, ?_⟩
      intro x hx1 hx2
      obtain ⟨t, ht, hap, hs1, hs2, _⟩ := mergeTail_covered (h1 ▸ hx1) hx2
      exact ⟨t, ht, hap.trans h2.symm, hs1, hs2⟩
    · have hmem := List.mem_cons_of_mem l0 (mergeTail_some hm)
      exact ⟨⟨m, hmem, rfl, rfl⟩, ⟨m, hmem, rfl⟩, fun x hx1 hx2 => ⟨m, hmem, rfl, hx1, hx2⟩⟩

/-- **With locations ordered by start** (what `OrderTermLocations` hands over), a merged span is a
union of whole locations: every byte of it lies in an original location that lies inside the span.
This is the form the end-to-end predicate `fragmentOK` asks of every marked span. -/
theorem merge_span_union (l0 : Loc) (ts : List Loc) (hs : ∀ t ∈ ts, l0.start ≤ t.start) (x : Int)
    (h1 : l0.start ≤ x) (h2 : x < (mergeTail l0 ts).1.stop) :
    ∃ t ∈ l0 :: ts, t.ap = l0.ap ∧ t.start ≤ x ∧ x < t.stop ∧
      (mergeTail l0 ts).1.start ≤ t.start ∧ t.stop ≤ (mergeTail l0 ts).1.stop := by
  obtain ⟨t, ht, hap, ha, hb, hc⟩ := mergeTail_covered h1 h2
  refine ⟨t, ht, hap, ha, hb, ?_, hc⟩
  rw [(mergeTail_fst l0 ts).1]
  rcases List.mem_cons.1 ht with rfl | ht
  · exact Int.le_refl _
  · exact hs t ht

/-- **Merging never shortens**: a location that was merged away (its slot holds nil) lies, end
included, inside what the first entry has become (the defect repaired by 64c2772). -/
theorem merge_never_shortens (l0 : Loc) (ts : List Loc) (i : Nat) (t : Loc)
    (hi : ts[i]? = some t) (hn : (mergeOverlapping (l0 :: ts))[i + 1]? = some none) :
    ∃ m, (mergeOverlapping (l0 :: ts))[0]? = some (some m) ∧ m.start = l0.start ∧
      l0.stop ≤ m.stop ∧ t.stop ≤ m.stop ∧ t.ap = m.ap := by
  obtain ⟨h1, h2, h3⟩ := mergeTail_fst l0 ts
  have := mergeTail_none hi hn
  exact ⟨(mergeTail l0 ts).1, rfl, h1, h3, this.2, this.1.trans h2.symm⟩

/-! ### html escaping can be undone -/

def unescape : List Nat → List Nat
  | 38 :: 97 :: 109 :: 112 :: 59 :: r => 38 :: unescape r
  | 38 :: 35 :: 51 :: 57 :: 59 :: r => 39 :: unescape r
  | 38 :: 108 :: 116 :: 59 :: r => 60 :: unescape r
  | 38 :: 103 :: 116 :: 59 :: r => 62 :: unescape r
  | 38 :: 35 :: 51 :: 52 :: 59 :: r => 34 :: unescape r
  | b :: r => b :: unescape r
  | [] => []

theorem unescape_other (b : Nat) (r : List Nat) (h : b ≠ 38) : unescape (b :: r) = b :: unescape r := by
  -- the side goals: `b :: r` is none of the five entity patterns, each of which starts with 38
  rw [unescape] <;> exact fun _ h' => absurd h' h

theorem unescape_escapeByte (b : Nat) (rest : List Nat) :
    unescape (escapeByte b ++ rest) = b :: unescape rest := by
  fun_cases escapeByte b
  case case6 h _ _ _ _ => exact unescape_other b rest (by simpa using h)  -- none of the five: `[b]`
  all_goals simp_all [unescape]

/-- `html.EscapeString` loses nothing: the escaped text determines the bytes -/
theorem unescape_escape (bs : List Nat) : unescape (escape bs) = bs := by
  induction bs with
  | nil => simp [escape, unescape]
  | cons b bs ih =>
    simp only [escape, List.flatMap_cons] at ih ⊢
    rw [unescape_escapeByte, ih]

theorem escape_injective (a b : List Nat) (h : escape a = escape b) : a = b := by
  rw [← unescape_escape a, ← unescape_escape b, h]

/-! ### the pipeline of `BestFragmentsInField`: fragment, merge, format -/

/-- **Every marked span of a formatted fragment is text at matched term locations**: it starts where
a location starts, ends where a location ends, lies inside the fragment, and every byte of it
belongs to a location of the fragment's array position — for any value, fragment size, locations. -/
theorem highlight_marks (orig : List Nat) (ls : List Loc) (f : Frag) (fap : Nat)
    (hf : f.start ≤ f.stop ∧ f.stop ≤ orig.length) (p : Piece)
    (hp : p ∈ format f fap (mergeOverlapping ls)) (hm : p.marked = true) :
    (∃ t ∈ ls, t.start = p.start ∧ t.ap = fap) ∧ (∃ t ∈ ls, t.stop = p.stop) ∧
    Covered ls fap p.start p.stop ∧ (f.start : Int) ≤ p.start ∧ p.start ≤ p.stop ∧ p.stop ≤ f.stop := by
  -- where the fragment lies does not matter: the marks come from the merged locations alone
  obtain ⟨-, -⟩ := hf
  obtain ⟨tl, h1, h2, hs, he, hb1, hle, hb2⟩ := formatGo_marks hp hm
  obtain ⟨⟨t, ht, hts, hta⟩, ⟨u, hu, hus⟩, hc⟩ := merge_entries ls tl h1
  rw [h2, hs, he] at hc
  exact ⟨⟨t, ht, hts.trans hs, hta.trans h2⟩, ⟨u, hu, hus.trans he⟩, hc, hb1, hle, hb2⟩

/-- the whole pipeline on one value never panics: fragments lie inside the value and each of them
formats, through any of the three formatters, to its own bytes plus markup -/
theorem highlight_no_panic (orig : List Nat) (size : Int) (ls : List Loc) (fap : Nat) (esc : Bool)
    (before after : List Nat) :
    ∃ fs, fragment orig size ls = .ok fs ∧ ∀ f ∈ fs,
      (∃ out, render orig esc before after (format f fap (mergeOverlapping ls)) = some out) ∧
      plainOf orig (format f fap (mergeOverlapping ls)) = slice orig f.start f.stop := by
  obtain ⟨fs, h1, h2⟩ := fragment_ok orig size ls
  refine ⟨fs, h1, ?_⟩
  intro f hf
  obtain ⟨a, b, _⟩ := format_correct orig f fap (mergeOverlapping ls) esc before after (h2 f hf)
  exact ⟨a, b⟩

/-! non-vacuity: "we play basketballs daily", locations of "basketballs" (8-19) and of the compound
part "ball" (14-18): a fragment per location, the merged location is the longer one, the mark is the whole word -/
example : fragment (List.replicate 25 97) 200 [⟨8, 19, 0⟩, ⟨14, 18, 0⟩] = .ok [⟨0, 25⟩, ⟨14, 25⟩] := by decide
example : mergeOverlapping [⟨8, 19, 0⟩, ⟨14, 18, 0⟩] = [some ⟨8, 19, 0⟩, none] := by decide
example : format ⟨0, 25⟩ 0 [some ⟨8, 19, 0⟩, none] = [⟨false, 0, 8⟩, ⟨true, 8, 19⟩, ⟨false, 19, 25⟩] := by decide
/-- malformed locations are skipped, not sliced -/
example : format ⟨0, 10⟩ 0 [some ⟨7, 3, 0⟩, some ⟨-2, 4, 0⟩, none, some ⟨4, 6, 1⟩] = [⟨false, 0, 10⟩] := by decide
example : fragment [104, 101, 108, 108, 111] 5 [⟨0, 1, 0⟩, ⟨5, -3, 0⟩] = .ok [⟨0, 5⟩] := by decide
example : unescape (escape [60, 38, 97, 109, 112, 59, 34]) = [60, 38, 97, 109, 112, 59, 34] := by decide

end Bleve.Highlight
