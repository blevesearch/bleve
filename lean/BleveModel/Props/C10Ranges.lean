import BleveModel.Props.C10
import BleveModel.Props.C07
/-!
# C10, second sentence — numeric and date range facets

"numeric and date range facets report for each range the number of values of matching documents
falling in [min, max)".  Proved on `Model/Facet.lean` (`numFacet`, `dateFacet`), for every list of
matching documents, every list of ranges with distinct names and every facet size, and linked to the
values themselves through the round trip of the term encoding (`Numeric.decode_prefixCode_zero`).
-/
namespace Bleve.Facet
open Bleve.TopN

/-! ## range facets (numeric and date): what the counters hold after all matching documents

Both builders read a doc-value term back as a value (none for a term of another shift) and bump the
counter of every range containing it; they differ in how a term is read and in what a range contains. -/

/-- both builders' per-document step, `hit` naming the ranges a term falls into: every hit of every
    term is bumped and added to Total; a document without terms is Missing -/
abbrev rangeVisit (hit : Bytes → List Bytes) : FState → List Bytes → FState :=
  visit (·.flatMap hit) (fun d => (d.flatMap hit).length) List.isEmpty

/-- a builder whose `UpdateVisitor` handles one term like this has the common per-document step -/
theorem visitDoc_eq_rangeVisit {hit : Bytes → List Bytes} {step : FState → Bytes → FState}
    (hstep : ∀ st t, step st t =
      { st with counts := (hit t).foldl bump st.counts, total := st.total + (hit t).length })
    (st : FState) (terms : List Bytes) :
    (let st' := terms.foldl step st
     { st' with missing := if terms.isEmpty then st'.missing + 1 else st'.missing })
      = rangeVisit hit st terms := by
  have : ∀ st, terms.foldl step st = { st with
      counts := (terms.flatMap hit).foldl bump st.counts,
      total := st.total + (terms.flatMap hit).length } := by
    induction terms with
    | nil => intro st; rfl
    | cons t ts ih =>
      intro st
      rw [List.foldl_cons, ih, hstep]
      simp only [List.flatMap_cons, List.foldl_append, List.length_append, Nat.add_assoc]
  rw [this]
  rfl

theorem range_accounting (hit : Bytes → List Bytes) (size : Nat) (docs : List (List Bytes)) :
    let r := result size (docs.foldl (rangeVisit hit) {})
    sumC r.listed + r.other = r.total ∧ r.missing = (docs.filter (·.isEmpty)).length :=
  visit_accounting _ _ _ (fun _ => Nat.le_refl _) size docs

section
variable {R V : Type} (val : Bytes → Option V) (name : R → Bytes) (contains : R → V → Bool)
  (ranges : List R)

/-- names of the ranges the value of a doc-value term falls into -/
def rangeHits (t : Bytes) : List Bytes :=
  match val t with
  | some v => (ranges.filter (contains · v)).map name
  | none => []

theorem count_rangeHits (hn : (ranges.map name).Nodup) (r : R) (hr : r ∈ ranges) (terms : List Bytes) :
    (terms.flatMap (rangeHits val name contains ranges)).count (name r)
      = (terms.filterMap val).countP (contains r) := by
  have hit (v : V) : ((ranges.filter (contains · v)).map name).count (name r)
      = if contains r v then 1 else 0 := by
    rw [((List.filter_sublist.map name).nodup hn).count]
    refine ite_cond_congr (propext ⟨fun hm => ?_, fun hv =>
      List.mem_map_of_mem (List.mem_filter.2 ⟨hr, hv⟩)⟩)
    obtain ⟨x, hx, hxr⟩ := List.mem_map.1 hm
    have ⟨hxm, hxv⟩ := List.mem_filter.1 hx
    exact inj_of_nodup_map name hn x hxm r hr hxr ▸ hxv
  induction terms with
  | nil => rfl
  | cons t ts ih =>
    rw [List.flatMap_cons, List.count_append, ih, List.filterMap_cons, rangeHits]
    cases val t with
    | none => exact Nat.zero_add _
    | some v => rw [List.countP_cons, hit, Nat.add_comm]

theorem range_counts (hn : (ranges.map name).Nodup) (r : R) (hr : r ∈ ranges)
    (docs : List (List Bytes)) :
    countOf (docs.foldl (rangeVisit (rangeHits val name contains ranges)) {}).counts (name r)
      = (docs.map (fun d => (d.filterMap val).countP (contains r))).sum := by
  rw [visit_counts]
  exact congrArg _ (List.map_congr_left fun d _ => count_rangeHits val name contains ranges hn r hr d)

end

/-! ### numeric ranges -/

/-- the value a doc-value term of a numeric field stands for (only full-precision terms count) -/
def numValOf (t : Bytes) : Option Numeric.W :=
  match Numeric.shiftOf t, Numeric.decodeInt64 t with
  | some 0, some i64 => some (Numeric.i2f (BitVec.ofInt 64 i64))
  | _, _ => none

/-- the values a numeric field of one document holds, read back from its doc-value terms -/
def numValues (terms : List Bytes) : List Numeric.W := terms.filterMap numValOf

theorem numVisitDoc_eq (ranges : List NumRange) :
    numVisitDoc ranges = rangeVisit (rangeHits numValOf (·.name) (·.contains) ranges) := by
  funext st terms
  refine visitDoc_eq_rangeVisit (fun st t => ?_) st terms
  unfold numVisitTerm rangeHits numValOf
  -- six cases of (shift, decoded value); only a full-precision term that decodes does anything, and there
  -- `foldl_map`, `length_map` turn the model's fold over the ranges into the fold over their names
  rcases Numeric.shiftOf t with _ | _ | _
  all_goals rcases Numeric.decodeInt64 t with _ | i
  all_goals simp only [List.foldl_map, List.length_map]
  all_goals rfl

/-- **Numeric range facet, counts.**  After all matching documents the counter of every range is the
number of values of those documents that lie in the range (lower bound inclusive, upper exclusive). -/
theorem num_range_counts (ranges : List NumRange) (hn : (ranges.map (·.name)).Nodup) (r : NumRange)
    (hr : r ∈ ranges) (docs : List (List Bytes)) :
    countOf (docs.foldl (numVisitDoc ranges) {}).counts r.name
      = (docs.map (fun d => (numValues d).countP r.contains)).sum := by
  rw [numVisitDoc_eq]
  exact range_counts numValOf _ _ ranges hn r hr docs

/-- **Accounting**: Total is the number of (value, range) hits, the counters add up to it exactly, so
`Other` is exactly what the trimmed list leaves out; Missing counts the matches without the field. -/
theorem num_accounting (size : Nat) (ranges : List NumRange) (docs : List (List Bytes)) :
    sumC (numFacet size ranges docs).listed + (numFacet size ranges docs).other = (numFacet size ranges docs).total ∧
    (numFacet size ranges docs).missing = (docs.filter (·.isEmpty)).length := by
  rw [numFacet, numVisitDoc_eq]
  exact range_accounting _ size docs

theorem numValOf_coarse {t : Bytes} {s : Nat} (hs : Numeric.shiftOf t = some s) (h : 1 ≤ s) :
    numValOf t = none := by
  obtain ⟨n, rfl⟩ := Nat.exists_eq_add_of_le' h
  rw [numValOf, hs]
  rfl

/-- the doc-value terms `NumericField.Analyze` writes for one value read back as exactly that value:
    the term of shift 0 decodes to it, the fifteen coarser ones are skipped -/
theorem numValues_numericTerms (v : Numeric.W) : numValues (numericTerms v) = [v] := by
  have hval : ∀ l, (Numeric.prefixCode (Numeric.f2i v).toInt (4 * l)).bind numValOf
      = if l = 0 then some v else none := by
    intro l
    by_cases hl : 4 * l > 63
    · rw [Numeric.prefixCode, if_pos hl, if_neg (by omega)]; rfl
    obtain ⟨t, ht⟩ : ∃ t, Numeric.prefixCode (Numeric.f2i v).toInt (4 * l) = some t :=
      ⟨_, if_neg hl⟩
    rw [ht, Option.bind_some]
    cases l with
    | zero =>
      have hdec := Numeric.decode_prefixCode_zero _ (Numeric.toInt_inI64 _) t ht
      rw [numValOf, hdec.1, hdec.2]
      show some (Numeric.i2f (BitVec.ofInt 64 (Numeric.f2i v).toInt)) = some v
      rw [BitVec.ofInt_toInt, Numeric.i2f_f2i]
    | succ l =>
      rw [if_neg (Nat.succ_ne_zero l)]
      exact numValOf_coarse (Numeric.shiftOf_prefixCode _ _ (by omega) t ht) (by omega)
  rw [numValues, numericTerms, List.filterMap_filterMap, funext hval]
  rfl

/-- **Numeric range facet over the documents' values.**  When every matching document is given by the
values of the faceted field (each indexed as its sixteen prefix-coded terms), the counter of a range
is the number of those values in [min, max). -/
theorem num_range_counts_values (ranges : List NumRange) (hn : (ranges.map (·.name)).Nodup)
    (r : NumRange) (hr : r ∈ ranges) (docs : List (List Numeric.W)) :
    countOf ((docs.map (fun vs => vs.flatMap numericTerms)).foldl (numVisitDoc ranges) {}).counts r.name
      = (docs.map (fun vs => vs.countP r.contains)).sum := by
  have hvs (vs : List Numeric.W) : numValues (vs.flatMap numericTerms) = vs := by
    rw [numValues, List.filterMap_flatMap]
    show vs.flatMap (fun v => numValues (numericTerms v)) = vs
    rw [funext numValues_numericTerms, List.flatMap_singleton']
  rw [num_range_counts ranges hn r hr, List.map_map]
  exact congrArg _ (List.map_congr_left fun vs _ => by rw [Function.comp, hvs])

/-! ### date ranges (nanoseconds since the epoch) -/

def dateValOf (t : Bytes) : Option Int :=
  match Numeric.shiftOf t, Numeric.decodeInt64 t with
  | some 0, some i64 => some i64
  | _, _ => none

def dateValues (terms : List Bytes) : List Int := terms.filterMap dateValOf

theorem dateVisitDoc_eq (ranges : List DateRange) :
    dateVisitDoc ranges = rangeVisit (rangeHits dateValOf (·.name) (·.contains) ranges) := by
  funext st terms
  refine visitDoc_eq_rangeVisit (fun st t => ?_) st terms
  unfold dateVisitTerm rangeHits dateValOf
  -- six cases of (shift, decoded value); only a full-precision term that decodes does anything, and there
  -- `foldl_map`, `length_map` turn the model's fold over the ranges into the fold over their names
  rcases Numeric.shiftOf t with _ | _ | _
  all_goals rcases Numeric.decodeInt64 t with _ | i
  all_goals simp only [List.foldl_map, List.length_map]
  all_goals rfl

/-- **Date range facet, counts**: the counter of a range is the number of date values of matching
documents with start ≤ value < end. -/
theorem date_range_counts (ranges : List DateRange) (hn : (ranges.map (·.name)).Nodup) (r : DateRange)
    (hr : r ∈ ranges) (docs : List (List Bytes)) :
    countOf (docs.foldl (dateVisitDoc ranges) {}).counts r.name
      = (docs.map (fun d => (dateValues d).countP r.contains)).sum := by
  rw [dateVisitDoc_eq]
  exact range_counts dateValOf _ _ ranges hn r hr docs

theorem date_accounting (size : Nat) (ranges : List DateRange) (docs : List (List Bytes)) :
    sumC (dateFacet size ranges docs).listed + (dateFacet size ranges docs).other = (dateFacet size ranges docs).total ∧
    (dateFacet size ranges docs).missing = (docs.filter (·.isEmpty)).length := by
  rw [dateFacet, dateVisitDoc_eq]
  exact range_accounting _ size docs

/-! non-vacuity: values 1.0 and 2.0 and 5.0 in two documents, ranges [1,3) and [2,∞) -/
example : (numFacet 5 [⟨[97], some 0x3ff0000000000000#64, some 0x4008000000000000#64⟩, ⟨[98], some 0x4000000000000000#64, none⟩]
    [numericTerms 0x3ff0000000000000#64 ++ numericTerms 0x4000000000000000#64, numericTerms 0x4014000000000000#64, []]).listed
    = [⟨[97], 2⟩, ⟨[98], 2⟩] := by decide

end Bleve.Facet
