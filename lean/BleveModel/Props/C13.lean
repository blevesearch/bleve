import BleveModel.Model.Retention
/-!
# C13 — Rollback restores exactly the state persisted at the chosen rollback point

"Every rollback point listed for an index corresponds to a state the index really had, identified by
the internal values stored with it, and the list always includes the most recent persisted state and
honours the configured number of snapshots to keep. After Rollback to a point and reopening,
documents, counts, search results and internal values equal that state, later batches are gone
completely, and the index accepts new writes."

Model: `Model/Retention.lean` (the persisted epoch list of root.bolt with what each epoch recorded,
`RollbackPoints`, `Rollback`, what Open loads, and the retention arithmetic).  Tie: `./check C13`
compares the retention functions with the Go code through a `verif` export and, end to end, rolls a
copy of a real index back to every offered point, reopens it and compares all observables with the
replay of the batches up to that point's sequence number, then writes to it.
That each persisted epoch records the index content of its moment is the durable-state invariant of
C03; here it is the content `γ` attached to the epoch.
-/
namespace Bleve.Retention

variable {γ : Type}

/-- epochs in root.bolt are listed newest first, strictly descending -/
def Desc (b : Bolt γ) : Prop := (epochs b).Pairwise (· > ·)

theorem rollback_eq_some {b b' : Bolt γ} {t : Nat} :
    rollback b t = some b' ↔ t ∈ epochs b ∧ b.dropWhile (fun p => p.1 != t) = b' := by
  simp [rollback]

theorem dropWhile_head (b : Bolt γ) (t : Nat) (h : t ∈ epochs b) :
    ∃ c rest, b.dropWhile (fun p => p.1 != t) = (t, c) :: rest := by
  induction b with
  | nil => cases h
  | cons p ps ih =>
    by_cases hp : p.1 = t
    · -- the head is the target: nothing is dropped
      subst hp
      exact ⟨p.2, ps, List.dropWhile_cons_of_neg (by simp)⟩
    · rw [List.dropWhile_cons_of_pos (p := fun q : Nat × γ => q.1 != t) (bne_iff_ne.2 hp)]
      exact ih ((List.mem_cons.1 h).resolve_left fun e => hp e.symm)

/-- **Rollback then open loads exactly the chosen point**: the content recorded with that epoch. -/
theorem rollback_recover (b : Bolt γ) (t : Nat) (h : t ∈ epochs b) :
    ∃ b' c, rollback b t = some b' ∧ recover b' = some (t, c) ∧ (t, c) ∈ b := by
  obtain ⟨c, rest, h1⟩ := dropWhile_head b t h
  exact ⟨_, c, rollback_eq_some.2 ⟨h, h1⟩, rfl, List.dropWhile_subset _ (h1 ▸ List.mem_cons_self)⟩

/-- what survives a rollback was persisted before (nothing is invented) -/
theorem rollback_sub (b b' : Bolt γ) (t : Nat) (h : rollback b t = some b') : ∀ p ∈ b', p ∈ b := by
  obtain ⟨_, rfl⟩ := rollback_eq_some.1 h
  exact fun p hp => List.dropWhile_subset _ hp

/-- **Later batches are gone completely**: no epoch newer than the target survives. -/
theorem rollback_drops_newer (b b' : Bolt γ) (t : Nat) (hd : Desc b) (h : rollback b t = some b') :
    ∀ p ∈ b', p.1 ≤ t := by
  obtain ⟨ht, rfl⟩ := rollback_eq_some.1 h
  obtain ⟨c, rest, h1⟩ := dropWhile_head b t ht
  -- what is kept is a sublist, so still strictly descending, and its head is the target
  have hd' : Desc ((t, c) :: rest) := h1 ▸ hd.sublist ((List.dropWhile_sublist _).map _)
  rw [h1]
  intro p hp
  rcases List.mem_cons.1 hp with rfl | hp
  · exact Nat.le_refl _
  · exact Nat.le_of_lt ((List.pairwise_cons.1 hd').1 _ (List.mem_map_of_mem hp))

/-- rolling back to an epoch that is not persisted is refused -/
theorem rollback_unknown (b : Bolt γ) (t : Nat) (h : t ∉ epochs b) : rollback b t = none := by
  simp [rollback, h]

/-- the list of rollback points is the persisted epochs, newest first, and starts with the state
    Open would load -/
theorem points_are_persisted (b : Bolt γ) : rollbackPoints b = b := rfl
theorem latest_listed (b : Bolt γ) : (rollbackPoints b).head? = recover b := rfl

/-- the purger never removes a protected epoch, nor one that is not eligible -/
theorem purge_keeps (b : Bolt γ) (eligible protectedE : List Nat) (p : Nat × γ) (hp : p ∈ b)
    (h : p.1 ∈ protectedE ∨ p.1 ∉ eligible) : p ∈ purge b eligible protectedE :=
  List.mem_filter.2 ⟨hp, by rcases h with h | h <;> simp [h]⟩

/-! ## retention arithmetic -/

theorem tsStep_length (arr : Array Snap) (interval i ptr : Nat) (acc : List Snap) :
    (tsStep arr interval i ptr acc).2.length ≤ acc.length + 1 := by
  fun_cases tsStep arr interval i ptr acc
  · exact Nat.le_succ _  -- the candidate's epoch is protected already: `acc` stays
  · exact Nat.le_of_eq List.length_append  -- the candidate is appended
  · exact Nat.le_succ _  -- not an interval apart yet: `acc` stays

theorem tsGo_length (arr : Array Snap) (maxPts interval fuel i ptr : Nat) (acc : List Snap)
    (h : acc.length ≤ maxPts) : (tsGo arr maxPts interval fuel i ptr acc).length ≤ maxPts := by
  -- out of fuel or at the bound: `acc` as it is; else one step, at index 0 the last.  The loop steps
  -- only below the bound, so one more entry stays within it
  fun_induction tsGo arr maxPts interval fuel i ptr acc with
  | case1 => exact h
  | case2 => exact h
  | case3 _ i ptr acc hlt => exact Nat.le_trans (tsStep_length ..) (Nat.lt_of_not_le hlt)
  | case4 _ i ptr acc hlt _ _ ih => exact ih (Nat.le_trans (tsStep_length ..) (Nat.lt_of_not_le hlt))

theorem timeSeries_length (maxPts interval : Nat) (snaps : List Snap) :
    (timeSeries maxPts interval snaps).length ≤ maxPts := by
  have hp (hc : ¬(interval == 0 || snaps.isEmpty || maxPts == 0) = true) : 1 ≤ maxPts :=
    Nat.pos_of_ne_zero fun e => hc (by subst e; exact Bool.or_true _)
  -- nothing to sample: `[]`; a single snapshot; the loop, started on the oldest one
  fun_cases timeSeries maxPts interval snaps with
  | case1 => exact Nat.zero_le _
  | case2 hc => exact hp hc
  | case3 hc => exact tsGo_length _ _ _ _ _ _ _ (hp hc)

/-- **Retention bound**: at most `numSnapshotsToKeep` (and at least the latest) epochs are protected. -/
theorem protected_bound (keep interval : Nat) (live : List Snap) :
    (protectedSnaps keep interval live).length ≤ max keep 1 := by
  unfold protectedSnaps
  -- the fill loop appends only below `keep`; before it, the time series and the latest
  refine List.foldlRecOn (motive := fun acc : List Snap => acc.length ≤ max keep 1) _ _ ?_
    fun acc hacc s _ => ?_
  · have ht : (timeSeries (keep - 1) interval live).length + 1 ≤ max keep 1 :=
      Nat.sub_add_eq_max keep 1 ▸ Nat.succ_le_succ (timeSeries_length (keep - 1) interval live)
    cases live.head? with
    | none => exact Nat.le_of_succ_le ht
    | some l =>
      dsimp only
      split
      · exact Nat.le_of_succ_le ht
      · rwa [List.length_append]
  · split
    · next hc =>
      have hlt : acc.length < keep := of_decide_eq_true (Bool.and_eq_true_iff.1 hc).1
      rw [List.length_append]
      exact Nat.le_trans hlt (Nat.le_max_left ..)
    · exact hacc

/-- the latest persisted snapshot is always protected -/
theorem latest_protected (keep interval : Nat) (l : Snap) (rest : List Snap) :
    ∃ s ∈ protectedSnaps keep interval (l :: rest), s.epoch = l.epoch := by
  unfold protectedSnaps
  -- it is there before the fill loop, which only appends
  refine List.foldlRecOn (motive := fun acc : List Snap => ∃ s ∈ acc, s.epoch = l.epoch) _ _ ?_
    fun acc ⟨s, hs, he⟩ x _ => ⟨s, ?_, he⟩
  · simp only [List.head?_cons]
    split
    · next hany =>
      obtain ⟨s, hs, he⟩ := List.any_eq_true.1 hany
      exact ⟨s, hs, beq_iff_eq.1 he⟩
    · exact ⟨l, List.mem_append_right _ (List.mem_singleton_self l), rfl⟩
  · split
    · exact List.mem_append_left _ hs
    · exact hs

/-! ## non-vacuity -/

example : rollback [(7, "c"), (5, "b"), (2, "a")] 5 = some [(5, "b"), (2, "a")] := by decide
example : (protectedSnaps 3 0 [⟨9, 50⟩, ⟨8, 40⟩, ⟨7, 30⟩, ⟨6, 20⟩]).map (·.epoch) = [9, 8, 7] := by decide

end Bleve.Retention
