import BleveModel.Model.Lifecycle
/-!
# C11 — The index API is safe under arbitrary concurrent use and Close always completes

"Any number of goroutines may call Index, Delete, Batch, Search (with and without deadlines), Document,
DocCount, FieldDict, Stats, forced merge, backup and Close on one index concurrently without data
races, panics or deadlocks. Close returns after in-flight calls finish and stops all background work;
every call made after Close returns the closed-index error. A search whose context is cancelled returns
an error promptly and leaves the index usable."

What a theorem can carry here is the lifecycle protocol (`Model/Lifecycle.lean`): for every
interleaving of calls entering, leaving and Close asking for the lock — Close is granted only when no
call is inside (`close_waits`), after it every call gets the closed-index error and nothing is inside
any more (`after_close_rejected`, `closed_stays_closed`), before it every call proceeds
(`before_close_proceeds`), closing twice is answered with the closed-index error and changes nothing.
The monitor `verdict` states the two observable consequences for a real history.
**Partial**: data races, panics, deadlocks, goroutine leaks and promptness of cancellation live in the
Go runtime; `./check C11` exercises them (race detector build, many goroutines over all four engines,
Close at a random moment from two goroutines at once, cancelled searches, goroutine count after
Close) and feeds every call's start/return sequence numbers and result to `verdict` in Lean.
-/
namespace Bleve.Lifecycle

theorem closed_stays_closed (s : L) (ev : Ev) (h : s.isOpen = false) : (step s ev).1.isOpen = false := by
  cases ev <;> simp [step, h]

theorem run_inv {P : L → Prop} (hstep : ∀ s ev, P s → P (step s ev).1) (evs : List Ev) :
    ∀ s, P s → P (run s evs).1 := by
  induction evs with
  | nil => exact fun _ h => h
  | cons ev evs ih => exact fun s h => ih _ (hstep s ev h)

theorem run_closed : ∀ (evs : List Ev) (s : L), s.isOpen = false → (run s evs).1.isOpen = false :=
  run_inv closed_stays_closed

/-- Close is granted only when no call is inside: in-flight calls finish first -/
theorem close_waits (s : L) (h : (step s .close).2 = .closed) : s.inflight = 0 ∧ s.isOpen = true := by
  unfold step at h
  cases ho : s.isOpen <;> simp [ho] at h
  · by_cases hz : s.inflight = 0
    · exact ⟨hz, rfl⟩
    · simp [hz] at h

/-- once closed, every call is answered with the closed-index error and never gets inside -/
theorem after_close_rejected : ∀ (evs : List Ev) (s : L), s.isOpen = false →
    ∀ (i : Nat), evs[i]? = some Ev.enter → (run s evs).2[i]? = some Out.closedErr := by
  intro evs
  induction evs with
  | nil => intro s h i hi; simp at hi
  | cons ev evs ih =>
    intro s h i hi
    cases i with
    | zero => cases Option.some.inj hi; simp [run, step, h]
    | succ j => exact ih _ (closed_stays_closed s ev h) j hi

/-- a second Close is answered with the closed-index error and changes nothing -/
theorem close_twice (s : L) (h : s.isOpen = false) : step s .close = (s, .closedErr) := by
  simp [step, h]

/-- while the index is open every call proceeds -/
theorem before_close_proceeds (s : L) (h : s.isOpen = true) : (step s .enter).2 = .proceed := by
  simp [step, h]

/-- nothing is inside after a successful Close, and nothing gets inside later -/
theorem inflight_zero_after_close : ∀ (evs : List Ev) (s : L), s.isOpen = false → s.inflight = 0 →
    (run s evs).1.inflight = 0 := fun evs s ho hz =>
  (run_inv (P := fun s => s.isOpen = false ∧ s.inflight = 0)
    (fun s ev h => by cases ev <;> simp [step, h]) evs s ⟨ho, hz⟩).2

/-- the monitor agrees with the model on sequential histories: a call issued after the Close that
    succeeded must report `closed`, one that returned before Close was issued must not -/
theorem verdict_after (cs ce st en : Nat) (r : Res) (h : verdict (some (cs, ce)) st en r = true)
    (hafter : st > ce) : r = .closed ∨ r = .refused := by
  simp only [verdict, hafter, if_true, Bool.and_eq_true, Bool.or_eq_true, beq_iff_eq] at h
  exact h.2.1

theorem verdict_before (cs ce st en : Nat) (r : Res) (h : verdict (some (cs, ce)) st en r = true)
    (hbefore : en < cs) : r ≠ .closed := by
  simp only [verdict, hbefore, if_true, Bool.and_eq_true, bne_iff_ne] at h
  exact h.2.2

example : (run {} [.enter, .enter, .close, .leave, .leave, .close, .enter, .close]).2 =
    [.proceed, .proceed, .blocked, .left, .left, .closed, .closedErr, .closedErr] := by decide
example : verdict (some (10, 20)) 25 26 .ok = false := by decide     -- accepted after Close
example : verdict (some (10, 20)) 3 5 .closed = false := by decide   -- rejected before Close
example : verdict (some (10, 20)) 8 15 .closed = true := by decide   -- overlapping Close: either answer

end Bleve.Lifecycle
