import BleveModel.Model.Query
import BleveModel.Lemmas.Asc
/-!
# C08 — Searchers yield ascending ids; Advance lands on the first match at/after target

"For every searcher that a query can build, alone or nested in any composition, successive results
have strictly increasing internal ids, and Advance(id) with a target beyond the last returned id (or
as the very first call) returns the first match whose id is not smaller than the target, never
skipping or repeating a match. Consequently any interleaving of Next and forward Advance calls visits
a subsequence of the Next-only enumeration that contains every match at or after each requested
target."

The contract is `Query.runContract` over the ascending list of matching ids; `./check C08` drives the
real searchers with random forward programs and compares every answer with it.  The theorems below
are the consequences the statement draws from the contract, for every ascending list and every
program.
-/
namespace Bleve.Query

def Asc (l : List Nat) : Prop := l.Pairwise (· < ·)

theorem asc_tail {l : List Nat} (h : Asc l) : Asc l.tail :=
  List.Pairwise.tail h

/-- a call pops a suffix of the list -/
theorem contractStep_eq (l : List Nat) (c : Call) :
    ∃ l', l' <:+ l ∧ contractStep l c = (l'.head?, l'.tail) := by
  cases c with
  | next => exact ⟨l, List.suffix_refl l, rfl⟩
  | adv t => exact ⟨_, List.dropWhile_suffix _, rfl⟩

/-- **Advance lands on the first match at or after the target**: the answer is ≥ target and every
    match that was skipped is smaller than the target. -/
theorem advance_lands (l : List Nat) (hl : Asc l) (t x : Nat)
    (hx : (contractStep l (.adv t)).1 = some x) :
    t ≤ x ∧ ∀ y ∈ l, y < x → y < t := by
  have hx : (l.dropWhile (· < t)).head? = some x := hx
  refine ⟨((Asc.mem_dropWhile hl).1 (List.mem_of_mem_head? hx)).2, fun y hy hyx => ?_⟩
  -- a match at or after the target is not skipped, and the answer is the least of those
  apply Nat.lt_of_not_le
  intro hty
  have := Asc.head?_le (Asc.dropWhile_asc hl t) hx ((Asc.mem_dropWhile hl).2 ⟨hy, hty⟩)
  omega

/-- and when Advance answers "no more", no match at or after the target existed -/
theorem advance_none (l : List Nat) (t : Nat) (hx : (contractStep l (.adv t)).1 = none) :
    ∀ y ∈ l, y < t := by
  have hd : l.dropWhile (· < t) = [] := List.head?_eq_none_iff.1 hx
  -- nothing is left, so the skipped prefix is the whole list
  have hall := List.all_takeWhile (p := (· < t)) (l := l)
  have htake := List.takeWhile_append_dropWhile (p := (· < t)) (l := l)
  rw [hd, List.append_nil] at htake
  rw [htake] at hall
  simpa using hall

theorem runContract_sublist (l : List Nat) (prog : List Call) : ((runContract l prog).filterMap id).Sublist l := by
  induction prog generalizing l with
  | nil => exact List.nil_sublist l
  | cons c cs ih =>
    obtain ⟨l', hsuf, hc⟩ := contractStep_eq l c
    simp only [runContract, hc]
    cases l' with
    | nil => exact (ih []).trans (List.nil_sublist l)
    | cons x xs => exact ((ih xs).cons_cons x).trans hsuf.sublist

/-- **Programs.** The answers of any finite program of Next / Advance calls, in order, are strictly
    ascending and form a sublist of the Next-only enumeration. -/
theorem program_subsequence (l : List Nat) (hl : Asc l) (prog : List Call) :
    ((runContract l prog).filterMap id).Sublist l ∧ Asc ((runContract l prog).filterMap id) :=
  ⟨runContract_sublist l prog, List.Pairwise.sublist (runContract_sublist l prog) hl⟩

/-- the ascending match list the contract is evaluated on really is ascending when the corpus is
    listed in ascending internal-id order -/
theorem den_asc (q : Q) (corpus : List Doc) (h : (corpus.map (·.iid)).Pairwise (· < ·)) :
    Asc (den q corpus) :=
  List.Pairwise.sublist (List.Sublist.map _ List.filter_sublist) h

example : runContract [2, 5, 9] [.adv 3, .next, .adv 10] = [some 5, some 9, none] := by decide

end Bleve.Query
