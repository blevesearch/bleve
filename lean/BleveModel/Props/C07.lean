import BleveModel.Model.Numeric
import BleveModel.Lemmas.Numeric
import BleveModel.Gen.Consts
/-!
# C07 — Numeric and date values sort and range-match exactly as numbers

"The index encoding of numbers preserves order and value: for any two float64 values a < b the
encoded term of a sorts before that of b, and decoding returns the original value. A numeric range
query with any bounds (including open ends and infinities) and any combination of inclusive flags
terminates and matches a document if and only if one of its values lies in the range; the same
holds for date ranges at nanosecond resolution, and sorting by such a field orders hits
numerically."  (for all float64 except NaN and negative zero, which the encoding places just
below +0.)

Model: `BleveModel/Model/Numeric.lean`.  Tie: I/O equality with the Go functions on every run
(`./check C07`).  All statements are for every 64-bit pattern / every int64 / every bound pair.
-/
namespace Bleve.Numeric

/-! ## value round trip -/

theorem i2f_f2i (b : W) : i2f (f2i b) = b := by
  rw [i2f, f2i_msb, f2i]
  split
  · rw [BitVec.xor_assoc, BitVec.xor_self, BitVec.xor_zero]
  · rfl

-- `f2i` and `i2f` are the same function of the bits, an involution
theorem f2i_i2f (i : W) : f2i (i2f i) = i := i2f_f2i i

/-! ## order -/

/-- the encoding orders *all* bit patterns by the IEEE total order (−0 just below +0, NaNs at the
    two ends ordered by payload) -/
theorem f2i_order (a b : W) : ieeeTotalLt a b ↔ (f2i a).slt (f2i b) = true := by
  rw [BitVec.slt_iff_toInt_lt, f2i_toInt, f2i_toInt, ieeeTotalLt]
  have ha := msb_iff a
  have hb := msb_iff b
  revert ha hb
  -- by the signs of `a` and `b`; each case is linear arithmetic on the closed form of `f2i`
  cases a.msb <;> cases b.msb <;> simp <;> omega

/-- Go's `<` on float64 implies the sortable ints are ordered (NaN and the ±0 pair excluded by
    `floatLt` itself). -/
theorem float_lt_sortable (a b : W) (h : floatLt a b = true) : (f2i a).slt (f2i b) = true := by
  unfold floatLt at h
  simp only [Bool.and_eq_true, decide_eq_true_eq] at h
  exact (f2i_order a b).1 h.2

/-- ... and therefore the shift-0 terms (the ones sorting and exact matching use) are ordered. -/
theorem float_lt_term_lt (a b : W) (h : floatLt a b = true) :
    ∃ ta tb, prefixCode (f2i a).toInt 0 = some ta ∧ prefixCode (f2i b).toInt 0 = some tb ∧
      bytesLt ta tb = true := by
  obtain ⟨ta, tb, h1, h2, h3⟩ := prefixCode_order (f2i a).toInt (f2i b).toInt 0 (by decide)
    (toInt_inI64 _) (toInt_inI64 _)
  refine ⟨ta, tb, h1, h2, h3.2 ?_⟩
  simpa [BitVec.slt_iff_toInt_lt] using float_lt_sortable a b h

/-- order at every precision shift -/
theorem prefixCode_order_all (v w : Int) (s : Nat) (hs : s ≤ 63)
    (hv : inI64 v = true) (hw : inI64 w = true) :
    ∃ tv tw, prefixCode v s = some tv ∧ prefixCode w s = some tw ∧
      (bytesLt tv tw = true ↔ v / 2^s < w / 2^s) := prefixCode_order v w s hs hv hw

/-! ## range splitting covers exactly the interval -/

/-- For all int64 bounds and values: `v` lies in `[min, max]` iff one of the split ranges contains
    `v`'s block at that range's precision (i.e. the term of `v` indexed at that shift lies between
    the range's end terms). `min > max` gives no range at all. -/
theorem split_cover (min max v : Int) :
    (∃ r ∈ splitRange min max, r.covers v) ↔ (min ≤ v ∧ v ≤ max) := splitRange_cover min max v

/-- every range produced for int64 bounds is well formed (level ≤ 15, ends inside the int64 values scaled to the level) -/
theorem split_wf (min max : Int) (hmin : inI64 min = true) (hmax : inI64 max = true) :
    ∀ r ∈ splitRange min max, r.wf := by
  intro r hr
  obtain ⟨hne, hl⟩ := splitRange_nonempty hr
  have hs : 4 * r.lvl ≤ 63 := by omega
  have hmin := (inI64_iff min).1 hmin
  have hmax := (inI64_iff max).1 hmax
  -- a block of `r` is the block of a value that `r` covers, and that value lies in `[min, max]`
  have hx : ∀ x, r.lo ≤ x → x ≤ r.hi →
      -(2:Int)^(63 - 4*r.lvl) ≤ x ∧ x < (2:Int)^(63 - 4*r.lvl) := by
    intro x h1 h2
    have e : x * 2^(4*r.lvl) / 2^(4*r.lvl) = x :=
      Int.mul_ediv_cancel _ (Int.ne_of_gt (Int.pow_pos (by decide)))
    have hv := (splitRange_cover min max (x * 2^(4*r.lvl))).1
      ⟨r, hr, by rw [Rng.covers, e]; exact ⟨h1, h2⟩⟩
    exact e ▸ div_block hs ((inI64_iff _).2 (by omega))
  exact ⟨hl, (hx _ (Int.le_refl _) hne).1, hne, (hx _ hne (Int.le_refl _)).2⟩

/-- the terms of a range are prefix codes of its blocks, so "covers" is the same as
    "the value's indexed term at that shift is one of the enumerated terms" -/
theorem covers_iff_term_mem (r : Rng) (v : Int) (hr : r.wf) (hv : inI64 v = true) :
    r.covers v ↔ ∃ t, prefixCode v (4*r.lvl) = some t ∧ t ∈ r.enumerate := by
  obtain ⟨hl, h1, _, h3⟩ := hr
  have hs : 4 * r.lvl ≤ 63 := by omega
  simp only [termOf_eq_prefixCode hl hv, Option.some.injEq, exists_eq_left', mem_enumerate]
  constructor
  · intro h
    exact ⟨_, h.1, h.2, rfl⟩
  · rintro ⟨x, hx1, hx2, he⟩
    -- terms are injective on the scaled int64 values, so `x` is the block of `v`
    rw [Rng.covers, ← blockTerm_inj hs ⟨by omega, by omega⟩ (div_block hs hv) he]
    exact ⟨hx1, hx2⟩

/-! ## the query: inclusive flags, open ends, infinities -/

theorem rangeMatches_iff (mn mx : Option W) (im iM : Option Bool) (d : W) :
    rangeMatches mn mx im iM d = true ↔
      (adjustBounds mn mx im iM).1 ≤ (f2i d).toInt ∧ (f2i d).toInt ≤ (adjustBounds mn mx im iM).2 := by
  unfold rangeMatches
  simp only [List.any_eq_true, decide_eq_true_eq]
  exact split_cover _ _ _

/-- Any bounds and flags, on the sortable ints: an absent bound is an infinity, an absent flag the
    default (`min` inclusive, `max` exclusive), and an exclusive bound steps inwards by one unless it
    is guarded (see `range_query_correct`). -/
theorem rangeMatches_bounds (mn mx : Option W) (im iM : Option Bool) (d : W)
    (hmn : (f2i (mn.getD negInfBits)).toInt ≠ maxI64)
    (hmx : (f2i (mx.getD posInfBits)).toInt ≠ minI64) :
    rangeMatches mn mx im iM d = true ↔
      (if im.getD true then (f2i (mn.getD negInfBits)).toInt ≤ (f2i d).toInt
        else (f2i (mn.getD negInfBits)).toInt < (f2i d).toInt) ∧
      (if iM.getD false then (f2i d).toInt ≤ (f2i (mx.getD posInfBits)).toInt
        else (f2i d).toInt < (f2i (mx.getD posInfBits)).toInt) := by
  rw [rangeMatches_iff]
  simp only [adjustBounds]
  refine and_congr ?_ ?_
  · cases im.getD true <;> simp [hmn, Int.add_one_le_iff]
  · cases iM.getD false <;> simp [hmx, Int.le_sub_one_iff]

/-- Full statement for explicit bounds: with `lo`/`hi` the sortable ints of the bounds, a value
    matches iff it is on the right side of each bound, strictly when the flag says exclusive.
    The two guards exclude the all-ones NaN patterns (`f2i` = MaxInt64 / MinInt64), where the Go
    code deliberately does not step. -/
theorem range_query_correct (mn mx : W) (im iM : Bool) (d : W)
    (hmn : (f2i mn).toInt ≠ maxI64) (hmx : (f2i mx).toInt ≠ minI64) :
    rangeMatches (some mn) (some mx) (some im) (some iM) d = true ↔
      (if im then ¬ ieeeTotalLt d mn else ieeeTotalLt mn d) ∧
      (if iM then ¬ ieeeTotalLt mx d else ieeeTotalLt d mx) := by
  simp only [rangeMatches_bounds (some mn) (some mx) (some im) (some iM) d hmn hmx,
    Option.getD_some, f2i_order, BitVec.slt_iff_toInt_lt, Int.not_lt]

/-- date ranges: nanosecond timestamps travel as `Int64ToFloat64(ns)` and come back unchanged, so a
    date range is an exact int64 interval test. -/
theorem date_range_correct (s e : W) (im iM : Bool) (ns : W)
    (hs : s.toInt ≠ maxI64) (he : e.toInt ≠ minI64) :
    rangeMatches (some (i2f s)) (some (i2f e)) (some im) (some iM) (i2f ns) = true ↔
      (if im then s.toInt ≤ ns.toInt else s.toInt < ns.toInt) ∧
      (if iM then ns.toInt ≤ e.toInt else ns.toInt < e.toInt) := by
  simpa only [Option.getD_some, f2i_i2f] using
    rangeMatches_bounds (some (i2f s)) (some (i2f e)) (some im) (some iM) (i2f ns)
      (by rwa [Option.getD_some, f2i_i2f]) (by rwa [Option.getD_some, f2i_i2f])

/-- an open end of a date range (what `parseEndpoints` passes since fix 53d92a2: the end of the int64
    range, exclusive) puts no upper limit on any representable timestamp -/
theorem date_range_open_end (s ns : W) (im : Bool) (hs : s.toInt ≠ maxI64) (hn : ns.toInt ≠ maxI64) :
    rangeMatches (some (i2f s)) (some (i2f (BitVec.ofInt 64 maxI64))) (some im) (some false) (i2f ns) = true ↔
      (if im then s.toInt ≤ ns.toInt else s.toInt < ns.toInt) := by
  have he : (BitVec.ofInt 64 maxI64).toInt = maxI64 := by decide
  rw [date_range_correct s _ im false ns hs (by rw [he]; decide), he]
  have hlt : ns.toInt < 2 ^ 63 := BitVec.toInt_lt
  unfold maxI64 at *
  simp only [Bool.false_eq_true, if_false]
  exact and_iff_left (by omega)

/-- `min > max` (after adjustment) matches nothing -/
theorem empty_range (mn mx : Option W) (im iM : Option Bool) (d : W)
    (h : (adjustBounds mn mx im iM).1 > (adjustBounds mn mx im iM).2) :
    rangeMatches mn mx im iM d = false := by
  cases hm : rangeMatches mn mx im iM d
  · rfl
  · have := (rangeMatches_iff mn mx im iM d).1 hm; omega

/-! ## constants regenerated from the source -/

theorem gen_shiftStart : Gen.shiftStartInt64 = shiftStart := by decide
theorem gen_precisionStep : Gen.numericPrecisionStep = precisionStep := by decide

/-! ## the shift-0 term of a value decodes back to the value -/

/-- **Round trip of the term encoding**: the full-precision (shift 0) term of an int64 is recognised
as a shift-0 term and decodes to the same int64. -/
theorem decode_prefixCode_zero (v : Int) (hv : inI64 v = true) (t : List Nat)
    (ht : prefixCode v 0 = some t) : shiftOf t = some 0 ∧ decodeInt64 t = some v := by
  rw [prefixCode_eq_blockTerm (s := 0) (by decide) hv, Int.pow_zero, Int.ediv_one] at ht
  obtain rfl := Option.some.inj ht
  exact ⟨shiftOf_cons 0 (by decide) _, decodeInt64_blockTerm_zero v hv⟩

/-- a coarser term of the same value is not a shift-0 term -/
theorem shiftOf_prefixCode (v : Int) (s : Nat) (hs : s < 63) (t : List Nat)
    (ht : prefixCode v s = some t) : shiftOf t = some s := by
  rw [prefixCode, if_neg (by omega)] at ht
  obtain rfl := Option.some.inj ht
  exact shiftOf_cons s hs _

/-! ## non-vacuity -/

example : floatLt 0x3ff0000000000000#64 0x4000000000000000#64 = true := by decide   -- 1.0 < 2.0
example : floatLt 0xbff0000000000000#64 0x0000000000000001#64 = true := by decide   -- −1.0 < smallest subnormal
example : (splitRange (-100) 1000).length = 5 := by decide
example : rangeMatches none (some 0x3ff0000000000000#64) none (some true) 0x3ff0000000000000#64 = true := by
  decide

example : decodeInt64 ((prefixCode (-42) 0).getD []) = some (-42) := by decide
example : shiftOf ((prefixCode (-42) 8).getD []) = some 8 := by decide

end Bleve.Numeric
