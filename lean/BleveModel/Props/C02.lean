import BleveModel.Model.Query
/-!
# C02 — A search returns exactly the live documents that satisfy the query

"For any corpus and any query composed of term, match (and/or), phrase and match-phrase, prefix,
wildcard, regexp, fuzzy, term-range, numeric-range, date-range, boolean-field, doc-id, match-all and
match-none leaves under conjunction, disjunction-with-minimum and boolean
must/should/must-not/filter composition, the hit set and Total equal the set obtained by evaluating
the documented meaning of the query over the analysed field values of the live documents. No
matching live document is missed, no non-matching or deleted document is returned, none is returned
twice, and the answer is the same whether or not scoring, term locations or explanations are
requested."

`Query.eval` *is* the documented meaning (structural recursion over the query tree); `./check C02`
compares the hit set and Total of the real search (both engines, three option settings) with it on
every run.  Proved here: the answer set is duplicate free and exact by construction, and the
algebraic identities that `BooleanQuery.Searcher`, `ConjunctionQuery.Searcher` and
`DisjunctionQuery.Searcher` rely on when they replace a searcher tree by a simpler one — so that
those rewrites are meaning preserving for every corpus and every sub-query.
-/
namespace Bleve.Query

/-- exactly the matching documents, each once -/
theorem den_exact (q : Q) (corpus : List Doc) (i : Nat) :
    i ∈ den q corpus ↔ ∃ d ∈ corpus, eval q d = true ∧ d.iid = i := by
  simp [den, and_assoc]

theorem den_nodup (q : Q) (corpus : List Doc) (h : (corpus.map (·.iid)).Nodup) : (den q corpus).Nodup := by
  unfold den
  exact List.Nodup.sublist (List.Sublist.map _ List.filter_sublist) h

theorem total_eq (q : Q) (corpus : List Doc) : (den q corpus).length = (corpus.filter (eval q)).length := by
  simp [den]

/-! ## `eval` on composite queries -/

theorem eval_all (d : Doc) : eval .all d = true := rfl

theorem eval_none (d : Doc) : eval .none d = false := rfl

theorem evalAll_eq_all (qs : List Q) (d : Doc) : evalAll qs d = qs.all (eval · d) := by
  induction qs with
  | nil => rfl
  | cons q qs ih => exact congrArg (eval q d && ·) ih

theorem countTrue_eq_length (qs : List Q) (d : Doc) : countTrue qs d = (qs.filter (eval · d)).length := by
  induction qs with
  | nil => rfl
  | cons q qs ih =>
    show (if eval q d then 1 else 0) + countTrue qs d = _
    rw [List.filter_cons, ih]
    split
    · rw [List.length_cons, Nat.add_comm]
    · rw [Nat.zero_add]

theorem eval_conj (qs : List Q) (d : Doc) : eval (.conj qs) d = qs.all (eval · d) :=
  evalAll_eq_all qs d

theorem eval_disj (min : Nat) (qs : List Q) (d : Doc) :
    eval (.disj min qs) d = decide (countTrue qs d ≥ max 1 min) := rfl

/-- a boolean query, clause by clause: must and filter have to hold, must-not must not, and should has
    to hold unless there is a must clause and should's minimum is 0 -/
theorem eval_bool (m s n f : Option Q) (d : Doc) :
    eval (.bool m s n f) d =
      (m.all (eval · d) && s.all (fun sq => if m.isSome then shouldMin0 sq || eval sq d else eval sq d) &&
        !n.any (eval · d) && f.all (eval · d) && (m.isSome || s.isSome || n.isSome || f.isSome)) := by
  rw [eval.eq_def]
  simp only
  -- one goal per clause; the last conjunct is the same on both sides
  congr 4
  · cases m <;> rfl
  · split
    · -- should is a disjunction: beside a must clause its own minimum counts, and 0 makes it optional
      rename_i min qs
      rw [Option.all_some, eval_disj, shouldMin0]
      split
      · cases min with
        | zero => rfl
        | succ k => rw [Nat.max_eq_right (Nat.succ_pos k)]
      · rfl
    · -- any other should clause is optional beside a must clause
      rename_i sq hsq
      have : shouldMin0 sq = true := by
        unfold shouldMin0
        split
        · exact absurd rfl (hsq _ _)
        · rfl
      rw [Option.all_some, this, Bool.true_or]
    · rfl
  · cases n <;> rfl
  · cases f <;> rfl

/-! ## identities behind the searcher-construction shortcuts -/

/-- a single-clause conjunction is its clause (`NewConjunctionSearcher` with one searcher) -/
theorem conj_single (q : Q) (d : Doc) : eval (.conj [q]) d = eval q d := by
  rw [eval_conj, List.all_cons, List.all_nil, Bool.and_true]

/-- a match-none clause empties a conjunction -/
theorem conj_with_none (qs₁ qs₂ : List Q) (d : Doc) : eval (.conj (qs₁ ++ Q.none :: qs₂)) d = false := by
  rw [eval_conj, List.all_append, List.all_cons, eval_none, Bool.false_and, Bool.and_false]

/-- a minimum of 0 behaves as 1 -/
theorem disj_min0 (qs : List Q) (d : Doc) : eval (.disj 0 qs) d = eval (.disj 1 qs) d := rfl

theorem disj_single (q : Q) (d : Doc) : eval (.disj 0 [q]) d = eval q d := by
  rw [eval_disj, countTrue_eq_length, List.filter_cons]
  cases eval q d <;> rfl

/-- match-none clauses do not count (dropping them, as query-string mode does, changes nothing) -/
theorem countTrue_drop_none (qs₁ qs₂ : List Q) (d : Doc) :
    countTrue (qs₁ ++ Q.none :: qs₂) d = countTrue (qs₁ ++ qs₂) d := by
  rw [countTrue_eq_length, countTrue_eq_length, List.filter_append, List.filter_append,
    List.filter_cons_of_neg (by simp [eval_none])]

/-- only `must`: the boolean query is its conjunction -/
theorem bool_only_must (m : Q) (d : Doc) : eval (.bool (some m) none none none) d = eval m d := by
  simp [eval_bool]

/-- only `should`: the boolean query is its disjunction -/
theorem bool_only_should (min : Nat) (qs : List Q) (d : Doc) :
    eval (.bool none (some (.disj min qs)) none none) d = eval (.disj min qs) d := by
  simp [eval_bool]

/-- only `must_not`: match-all minus the excluded documents -/
theorem bool_only_mustNot (n : Q) (d : Doc) :
    eval (.bool none none (some n) none) d = (eval .all d && !eval n d) := by
  simp [eval_bool, eval_all]

/-- only `filter`: match-all restricted by the filter -/
theorem bool_only_filter (f : Q) (d : Doc) :
    eval (.bool none none none (some f)) d = (eval .all d && eval f d) := by
  simp [eval_bool, eval_all]

/-- nothing at all: match-none -/
theorem bool_empty (d : Doc) : eval (.bool none none none none) d = eval .none d := by
  simp [eval_bool, eval_none]

/-- with a `must`, a `should` with minimum 0 never excludes a document -/
theorem bool_should_optional (m : Q) (qs : List Q) (n f : Option Q) (d : Doc) :
    eval (.bool (some m) (some (.disj 0 qs)) n f) d = eval (.bool (some m) none n f) d := by
  rw [eval_bool, eval_bool]
  rfl

/-- must-not always excludes, whatever the other clauses say -/
theorem bool_mustNot_excludes (m s f : Option Q) (n : Q) (d : Doc) (h : eval n d = true) :
    eval (.bool m s (some n) f) d = false := by
  simp [eval_bool, h]

/-- the filter clause always restricts -/
theorem bool_filter_restricts (m s n : Option Q) (f : Q) (d : Doc) (h : eval f d = false) :
    eval (.bool m s n (some f)) d = false := by
  simp [eval_bool, h]

/-- a phrase needs its terms consecutively inside one array element: a document whose elements
    each lack some term of the phrase does not match -/
theorem phraseAt_needs_terms (ts : List Term) (e : Elem) (t : Term) (ht : t ∈ ts) (hne : t ≠ [])
    (hno : t ∉ e) : phraseAt ts e = false := by
  fun_induction phraseAt ts e with
  | case1 => cases ht  -- no terms
  | case2 => rfl  -- the element has run out
  | case3 x xs w ws ih =>  -- `x` against the token `w`, the rest after it
    rcases List.mem_cons.1 ht with rfl | ht'
    · have h1 : t.isEmpty = false := List.isEmpty_eq_false_iff.2 hne
      have h2 : (t == w) = false := beq_eq_false_iff_ne.2 fun e => hno (e ▸ List.mem_cons_self)
      rw [h1, h2]
      rfl
    · rw [ih ht' fun hm => hno (List.mem_cons_of_mem _ hm), Bool.and_false]

/-! ## non-vacuity -/

example : eval (.bool (some (.conj [.all])) (some (.disj 2 [.all, .none])) none none)
    ⟨0, [100], [], []⟩ = false := by decide

end Bleve.Query
