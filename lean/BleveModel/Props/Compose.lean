import BleveModel.Props.BoolSearcher
import BleveModel.Props.ConjSearcher
import BleveModel.Props.DisjSearcher
/-!
# Composite searchers are contract-keeping clauses

The refinement theorems take the clauses of a composite searcher as values of `Ch`: a cursor and the
ascending list of matches after it, with `Next` and forward `Advance` fixed by the contract and
everything else left open (`w`).  The theorems here close the loop: a boolean, conjunction or
disjunction searcher, seen from outside through the answer it last gave and the matches it still has,
*is* such a clause — its `Next` is the clause's `next`, its `Advance` is the clause's `adv` for the
particular out-of-contract behaviour "move on" (`fun _ c => c.next`).  Since the refinement theorems
hold for every `w`, a tree of these searchers over contract-keeping leaves enumerates, at every node,
the denotation computed bottom-up by `boolDen`, `conjDen` and `disjDen`.
-/
namespace Bleve.Compose
open Bleve.BoolSearcher (Ch Weird Asc Pops)

/-- out-of-contract behaviour of a composite searcher: asked to advance to where it already is, it moves on -/
def moveOn : Weird := fun _ c => c.next

/-- the clause a searcher looks like from outside: its last answer and what it still has -/
def view (last : Option Nat) (rest : List Nat) : Ch := { curr := last, rem := rest }

theorem view_next (last : Option Nat) (rest : List Nat) :
    (view last rest).next = view rest.head? rest.tail :=
  Ch.next_eq _

theorem view_adv {last : Option Nat} {rest : List Nat} (t : Nat) (hasc : Asc (last.toList ++ rest)) :
    (view last rest).adv moveOn t = view (rest.dropWhile (· < t)).head? (rest.dropWhile (· < t)).tail := by
  rw [← view_next last]
  fun_cases Ch.adv moveOn t (view last rest) with
  | case1 v hv htv =>
    -- last answer at or past the target: the searcher moves on; every remaining match is beyond the target anyway
    obtain rfl : last = some v := hv
    have hv : ∀ x ∈ rest, v < x := (List.pairwise_cons.1 (show Asc (v :: rest) from hasc)).1
    rw [Asc.dropWhile_eq_self fun x hx => Nat.le_trans htv (Nat.le_of_lt (hv x hx))]
    rfl
  | case2 => rfl  -- last answer behind the target
  | case3 => rfl  -- no answer yet

/-- under the hypotheses of `runSpec_of_pops` — `Next` and `Advance` pop the list the state stands for — a
    searcher acts on its outside view as the contract says.  `hasc`: the view is an ok child, its last
    answer lying before everything it still holds. -/
theorem is_clause {σ : Type} {I : σ → Prop} {abs : σ → List Nat} {nxt : σ → Option Nat × σ}
    {adv : Nat → σ → Option Nat × σ}
    (hn : ∀ st, I st → Pops I abs (nxt st) (abs st))
    (ha : ∀ t st, I st → Pops I abs (adv t st) ((abs st).dropWhile (· < t)))
    {st : σ} (hi : I st) {last : Option Nat} (t : Nat) (hasc : Asc (last.toList ++ abs st)) :
    view (nxt st).1 (abs (nxt st).2) = (view last (abs st)).next ∧
    view (adv t st).1 (abs (adv t st).2) = (view last (abs st)).adv moveOn t := by
  have hn := hn st hi
  have ha := ha t st hi
  rw [hn.fst, hn.snd, ha.fst, ha.snd, view_next, view_adv t hasc]
  exact ⟨rfl, rfl⟩

/-- **The boolean searcher is a clause**: `Next` and `Advance` act on its outside view as the contract says. -/
theorem bool_is_clause (w : Weird) (st : Bleve.BoolSearcher.St) (hi : Bleve.BoolSearcher.Inv st)
    (last : Option Nat) (t : Nat) (hasc : Asc (last.toList ++ Bleve.BoolSearcher.abs st)) :
    view (Bleve.BoolSearcher.next w st).1 (Bleve.BoolSearcher.abs (Bleve.BoolSearcher.next w st).2) =
      (view last (Bleve.BoolSearcher.abs st)).next ∧
    view (Bleve.BoolSearcher.advance w t st).1 (Bleve.BoolSearcher.abs (Bleve.BoolSearcher.advance w t st).2) =
      (view last (Bleve.BoolSearcher.abs st)).adv moveOn t :=
  is_clause (Bleve.BoolSearcher.next_spec w) (Bleve.BoolSearcher.advance_spec w) hi t hasc

/-- **The conjunction searcher is a clause.** -/
theorem conj_is_clause (w : Weird) (st : Bleve.ConjSearcher.St) (hi : Bleve.ConjSearcher.Inv st)
    (last : Option Nat) (t : Nat) (hasc : Asc (last.toList ++ Bleve.ConjSearcher.common st.chs)) :
    view (Bleve.ConjSearcher.next w st).1 (Bleve.ConjSearcher.common (Bleve.ConjSearcher.next w st).2.chs) =
      (view last (Bleve.ConjSearcher.common st.chs)).next ∧
    view (Bleve.ConjSearcher.advance w t st).1 (Bleve.ConjSearcher.common (Bleve.ConjSearcher.advance w t st).2.chs) =
      (view last (Bleve.ConjSearcher.common st.chs)).adv moveOn t :=
  is_clause (Bleve.ConjSearcher.next_spec w) (Bleve.ConjSearcher.advance_spec w) hi t hasc

/-- **The disjunction searcher is a clause.** -/
theorem disj_is_clause (w : Weird) (st : Bleve.DisjSearcher.St) (hok : Bleve.ConjSearcher.AllOk st.chs)
    (last : Option Nat) (t : Nat) (hasc : Asc (last.toList ++ Bleve.DisjSearcher.abs st)) :
    view (Bleve.DisjSearcher.next st).1 (Bleve.DisjSearcher.abs (Bleve.DisjSearcher.next st).2) =
      (view last (Bleve.DisjSearcher.abs st)).next ∧
    view (Bleve.DisjSearcher.advance w t st).1 (Bleve.DisjSearcher.abs (Bleve.DisjSearcher.advance w t st).2) =
      (view last (Bleve.DisjSearcher.abs st)).adv moveOn t :=
  is_clause Bleve.DisjSearcher.next_spec (Bleve.DisjSearcher.advance_spec w) hok t hasc

set_option linter.unusedVariables false in  -- `last` does not occur in the statement
/-- a clause that keeps the contract stays one: its outside view after a step is again ascending -/
theorem view_ok_next (last : Option Nat) (rest : List Nat) (h : Asc rest) :
    Asc (rest.head?.toList ++ rest.tail) := by
  cases rest with
  | nil => exact List.Pairwise.nil
  | cons x xs => simpa using h

end Bleve.Compose
