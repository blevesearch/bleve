import BleveModel.Model.Files
import BleveModel.Props.C03
/-!
# C12 — Needed segment files are never removed; unneeded files do not accumulate

"At every moment each segment file named by a snapshot recorded in the index's metadata store, used
by the current state, held by an open reader, or scheduled for an online copy exists on disk, so that
reopening at that moment never fails or silently falls back to older data. Once writing stops and
background work has settled, the directory holds only the metadata store and the segment files of the
retained rollback snapshots, and after Close no file of the index remains open."

Model: `Model/Files.lean` over `Model/Durable.lean`.  Theorems, for every trace of steps whose side
conditions hold: every needed file (named by a committed snapshot or used by an open reader) exists
(`needed_present`), so Open at that moment loads the newest snapshot (C03 `recover_newest`); the
purger's fixpoint keeps exactly the needed files (`purgeAll_exact`) and is itself a legal sequence of
removals (`purgeAll_inv`).
Tie (`./check C12`): the durable events of the real persister, merger and purger and the readers the
harness opens and closes are replayed through `stepOK` in Lean; every reader's files are stat-ed when
it is opened and while it is held; at quiescence the directory listing is compared with the files the
model's root.bolt names; after Close the process holds no descriptor inside the index directory.
-/
namespace Bleve.Files
open Bleve.Durable

def Inv (s : F) : Prop :=
  Durable.Inv s.d ∧ ∀ p ∈ s.held, ∀ f ∈ p.2, f ∈ s.d.present

theorem heldFile_iff (s : F) (f : Name) : heldFile s f = true ↔ ∃ p ∈ s.held, f ∈ p.2 := by
  simp only [heldFile, List.any_eq_true, List.contains_iff_mem]

/-- **Needed files exist** in every state satisfying the invariant. -/
theorem needed_present (s : F) (hi : Inv s) (f : Name) (hn : needed s f = true) : f ∈ s.d.present := by
  rcases Bool.or_eq_true_iff.1 hn with h | h
  · obtain ⟨r, hr, hf⟩ := (named_iff s.d f).1 h
    exact hi.1.1 r hr f hf
  · obtain ⟨p, hp, hf⟩ := (heldFile_iff s f).1 h
    exact hi.2 p hp f hf

theorem stepOK_dur {s : F} {ev : Durable.Ev} (h : stepOK s (.dur ev) = true) :
    Durable.stepOK s.d ev = true := by
  cases ev with
  | zapRemove f =>
    simp only [stepOK, needed, Bool.not_eq_true', Bool.or_eq_false_iff] at h
    simp [Durable.stepOK, h.1]
  | _ => exact h

/-- **Every step preserves the invariant.** -/
theorem step_inv (s : F) (ev : Ev) (hi : Inv s) (hok : stepOK s ev = true) : Inv (step s ev) := by
  cases ev with
  | hold h fs =>
    have hfs : ∀ f ∈ fs, f ∈ s.d.present := by simpa [stepOK] using hok
    exact ⟨hi.1, List.forall_mem_cons.2 ⟨hfs, hi.2⟩⟩
  | release h => exact ⟨hi.1, fun p hp => hi.2 p (List.mem_filter.1 hp).1⟩
  | dur ev =>
    refine ⟨Durable.step_inv s.d ev hi.1 (stepOK_dur hok), fun p hp g hg =>
      mem_step_present (hi.2 p hp g hg) ?_⟩
    -- a file an open reader holds is needed, so the step is not its removal
    rintro rfl
    simp [stepOK, needed, (heldFile_iff s g).2 ⟨p, hp, hg⟩] at hok

theorem run_inv {evs : List Ev} {s s' : F} (hi : Inv s) (h : run s evs = some s') : Inv s' :=
  run_induction (fun _ => rfl) (fun _ _ _ => rfl) (fun s ev _ => step_inv s ev) hi h

/-- **At every moment**: after any legal trace every needed file exists and Open would load the newest
    committed snapshot. -/
theorem always_openable (evs : List Ev) (s0 s : F) (hi : Inv s0) (hrun : run s0 evs = some s) :
    (∀ f, needed s f = true → f ∈ s.d.present) ∧ recover s.d = s.d.bolt.head? := by
  have h := run_inv hi hrun
  exact ⟨needed_present s h, recover_newest s.d h.1⟩

/-- `needed` does not depend on which files are present -/
theorem needed_purgeAll (s : F) (f : Name) : needed (purgeAll s) f = needed s f := rfl

/-- **Quiescence**: the purger's fixpoint keeps exactly the needed files. -/
theorem purgeAll_exact (s : F) (hi : Inv s) (f : Name) :
    f ∈ (purgeAll s).d.present ↔ needed s f = true :=
  List.mem_filter.trans (and_iff_right_of_imp (needed_present s hi f))

/-- ... and removes nothing that is needed (the invariant survives) -/
theorem purgeAll_inv (s : F) (hi : Inv s) : Inv (purgeAll s) := by
  constructor
  · -- a named file is needed, so it stays
    exact hi.1.filter_present (needed s) fun f h => Bool.or_eq_true_iff.2 (.inl h)
  · -- a held file was present and is needed, so it stays
    intro p hp f hf
    exact List.mem_filter.2 ⟨hi.2 p hp f hf, Bool.or_eq_true_iff.2 (.inr ((heldFile_iff s f).2 ⟨p, hp, hf⟩))⟩

theorem inv_init : Inv {} := ⟨Durable.inv_init, nofun⟩

/-! ## non-vacuity, and what the side conditions exclude -/

/-- removing a file an open reader uses is rejected, and would break the invariant -/
example : stepOK { d := { present := ["1.zap"] }, held := [(7, ["1.zap"])] } (.dur (.zapRemove "1.zap")) = false := by decide
/-- once the reader is closed and no snapshot names the file, the removal is legal -/
example : (run { d := { present := ["1.zap"] }, held := [(7, ["1.zap"])] }
    [.release 7, .dur (.zapRemove "1.zap")]).map (fun s => s.d.present) = some [] := by decide
example : (purgeAll { d := { bolt := [⟨3, ["3.zap"]⟩], present := ["1.zap", "2.zap", "3.zap"] }, held := [(1, ["2.zap"])] }).d.present
    = ["2.zap", "3.zap"] := by decide

end Bleve.Files
