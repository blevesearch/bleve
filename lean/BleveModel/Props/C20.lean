import BleveModel.Model.Nested
/-!
# C20 — Nested-object search respects object boundaries and returns each parent once

"With an array of objects mapped as nested, a conjunction whose conjuncts all address fields of that
array matches a document only if a single array element satisfies all of them, and keeps that
meaning when it is a clause of a larger query; clauses that address different arrays or top-level
fields are combined per parent document, for conjunction, disjunction and boolean
must/should/must-not alike. The same documents mapped without nesting match whenever each clause is
met by some element. Hits are always parent documents, each at most once, and DocCount, Total,
match-all, deletes and updates count and affect parents together with all their nested elements."

`Model/Nested.lean` is the statement as a Lean function (`eval nested doc q context`), for any
nesting depth (a document is its own object plus every array element at any depth).  `./check C20`
compares real searches on scorch under the nested and the un-nested mapping (after several separate
update / delete batches), DocCount and match-all with it.  Proved here: what the specification
itself guarantees for every document and query.  Two clauses of the statement are known to fail on
the unchanged tree (must_not, and counts ≥ 2 across levels, are not combined per parent): see
KNOWN_FINDINGS.txt; the check reports them under their own categories.
-/
namespace Bleve.Nested

/-- hits are parents, each at most once -/
theorem search_nodup (nested : Bool) (q : Q) (corpus : List Doc) (h : (corpus.map (·.id)).Nodup) :
    (search nested q corpus).Nodup := by
  unfold search
  exact (List.Sublist.map _ List.filter_sublist).nodup h

theorem search_sub (nested : Bool) (q : Q) (corpus : List Doc) :
    ∀ i ∈ search nested q corpus, ∃ d ∈ corpus, d.id = i ∧ docMatches nested q d = true := by
  intro i hi
  simp only [search, List.mem_map, List.mem_filter] at hi
  obtain ⟨d, ⟨hd, hm⟩, rfl⟩ := hi
  exact ⟨d, hd, rfl, hm⟩

theorem unnested_conj (d : Doc) (qs : List Q) (c : Node) :
    eval false d (.conj qs) c = evalAll false d qs c := by
  simp [eval]

/-- **Same element.**  Under the nested mapping a conjunction whose leaves share an array path deeper
than the context holds exactly when ONE object at that path, inside the context, satisfies every
clause. -/
theorem nested_conj_iff (d : Doc) (qs : List Q) (c : Node) (h : c.apath.length < (joinPath qs).length) :
    eval true d (.conj qs) c = true ↔
      ∃ m ∈ d.nodes, m.apath = joinPath qs ∧ below c m = true ∧ evalAll true d qs m = true := by
  simp only [eval, Bool.true_and, decide_eq_true_eq, h, if_true, List.any_eq_true, Bool.and_eq_true, beq_iff_eq,
    and_assoc]

/-- clauses with no array in common (different arrays, or an array and a top-level field) are
combined per enclosing object: at the top, per parent document -/
theorem nested_conj_per_parent (d : Doc) (qs : List Q) (h : joinPath qs = []) :
    eval true d (.conj qs) root = evalAll true d qs root := by
  simp [eval, h]

theorem below_root (n : Node) : below root n = true := by simp [below, root]

theorem term_root {nested : Bool} {d : Doc} {p : Path} {f : Name} {t : Term} {c : Node}
    (h : eval nested d (.term p f t) c = true) (nested' : Bool) : eval nested' d (.term p f t) root = true := by
  simp only [eval, List.any_eq_true, Bool.and_eq_true] at h ⊢
  obtain ⟨n, hn, ⟨h1, _⟩, h3⟩ := h
  exact ⟨n, hn, ⟨h1, below_root n⟩, h3⟩

/-- a leaf that holds inside some object holds for the document -/
theorem term_mono (nested : Bool) (d : Doc) (p : Path) (f : Name) (t : Term) (c : Node)
    (h : eval nested d (.term p f t) c = true) : eval nested d (.term p f t) root = true :=
  term_root h nested

def leaves (fts : List (Path × Name × Term)) : List Q := fts.map (fun p => Q.term p.1 p.2.1 p.2.2)

theorem leaves_mono {nested : Bool} {d : Doc} {fts : List (Path × Name × Term)} {c : Node}
    (h : evalAll nested d (leaves fts) c = true) : evalAll false d (leaves fts) root = true := by
  induction fts with
  | nil => rfl
  | cons p rest ih =>
    simp only [leaves, List.map_cons, evalAll, Bool.and_eq_true] at h ⊢
    exact ⟨term_root h.1 false, ih h.2⟩

/-- **Nested is stricter than un-nested**: a conjunction of term leaves (over any arrays, at any
depth) that matches a document under the nested mapping matches it without nesting too. -/
theorem nested_implies_unnested (d : Doc) (fts : List (Path × Name × Term))
    (h : docMatches true (.conj (leaves fts)) d = true) : docMatches false (.conj (leaves fts)) d = true := by
  rw [docMatches, unnested_conj]
  cases hj : joinPath (leaves fts) with
  | nil => exact leaves_mono ((nested_conj_per_parent d _ hj).symm.trans h)
  | cons a p =>
    obtain ⟨m, -, -, -, hm⟩ := (nested_conj_iff d _ root (by rw [hj]; exact Nat.succ_pos _)).mp h
    exact leaves_mono hm

/-- the two readings differ exactly when the witnesses sit in different elements; with two levels,
the inner elements must also sit inside one and the same outer element -/
example :
    let d : Doc := ⟨[1], [⟨[], [], []⟩, ⟨[[101]], [0], [([110], [1]), ([111], [2])]⟩, ⟨[[101]], [1], [([110], [3]), ([111], [4])]⟩]⟩
    let q : Q := .conj [.term [[101]] [110] [1], .term [[101]] [111] [4]]
    docMatches true q d = false ∧ docMatches false q d = true := by decide

example :
    let d : Doc := ⟨[1], [⟨[], [], []⟩, ⟨[[101]], [0], [([110], [1])]⟩, ⟨[[101], [102]], [0, 0], [([120], [7])]⟩,
      ⟨[[101]], [1], [([110], [3])]⟩, ⟨[[101], [102]], [1, 0], [([120], [8])]⟩]⟩
    -- name 1 and tag 8 exist, but in different outer elements
    docMatches true (.conj [.term [[101]] [110] [1], .term [[101], [102]] [120] [8]]) d = false ∧
    docMatches true (.conj [.term [[101]] [110] [3], .term [[101], [102]] [120] [8]]) d = true ∧
    docMatches true (.term [[101], [102]] [120] [7]) d = true := by decide

end Bleve.Nested
