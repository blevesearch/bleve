import BleveModel.Lemmas.Snapshot
import BleveModel.Lemmas.Assoc
/-!
# The snapshot algebra refines the index-content specification (shared by C01, C04, C05)

For every root snapshot that satisfies the invariant "each id has at most one live document" and
every batch (a Go map: one entry per id):

* `introduce_lookup` — after introducing the batch, looking up an id gives what the batch says for
  that id, and what the old root said for every other id: the new segment and all the obsoletions
  take effect together (one root swap);
* `introduce_inv` — the invariant is kept;
* `merge_lookup`, `merge_inv`, `merge_docCount` — replacing any set of segments by one segment holding
  their live documents changes no lookup, keeps the invariant and the document count: merging (and
  persisting, which replaces a segment by an equal one) never changes the logical content;
* `reachable_refines` — by induction over any finite sequence of introductions and merges from the
  empty index, every lookup equals the last-write-wins replay of the batches.
-/
namespace Bleve.Snapshot
open Bleve.KV (Bytes)

def batchSays (b : Batch) (id : Bytes) : Option (Option Bytes) := b.lookup id

theorem newDocs_keys_sublist (b : Batch) : (b.newDocs.map (·.1)).Sublist (b.map (·.1)) := by
  induction b with
  | nil => exact .slnil
  | cons p b ih =>
    obtain ⟨k, v⟩ := p
    cases v with
    | none => exact ih.cons _
    | some c => exact ih.cons_cons _

theorem mem_newDocs (b : Batch) (id c : Bytes) : (id, c) ∈ b.newDocs ↔ (id, some c) ∈ b := by
  simp only [Batch.newDocs, List.mem_filterMap, Option.map_eq_some_iff]
  exact ⟨fun ⟨p, hp, c', hc, e⟩ => by cases e; rwa [← hc], fun h => ⟨_, h, c, rfl, rfl⟩⟩

theorem newDocs_lookup (b : Batch) (id : Bytes) (hn : (b.map (·.1)).Nodup) :
    b.newDocs.lookup id = (b.lookup id).join :=
  Option.ext fun c => by
    rw [Assoc.lookup_eq_some_iff_mem (hn.sublist (newDocs_keys_sublist b)), mem_newDocs,
      ← Assoc.lookup_eq_some_iff_mem hn, Option.join_eq_some_iff]

/-- **Batches take effect together, last write wins.** -/
theorem introduce_lookup (r : Snap) (b : Batch) (sid : Nat) (id : Bytes) (hb : (b.map (·.1)).Nodup) :
    lookup (introduce r b sid) id = match batchSays b id with
      | some (some c) => some c
      | some none => none
      | none => lookup r id := by
  rw [lookup, liveDocs_introduce, List.lookup_append,
    Assoc.lookup_filter_key (fun k => !(b.map (·.1)).contains k), Assoc.contains_keys,
    newDocs_lookup b id hb, batchSays]
  cases b.lookup id with
  | none => simp [lookup]
  | some v => cases v <;> rfl

theorem introduce_inv (r : Snap) (b : Batch) (sid : Nat) (hb : (b.map (·.1)).Nodup) (h : Inv r) :
    Inv (introduce r b sid) := by
  have hsub := newDocs_keys_sublist b
  rw [Inv, liveDocs_introduce, List.map_append, List.nodup_append]
  refine ⟨h.sublist (List.filter_sublist.map _), hb.sublist hsub, ?_⟩
  rintro _ hx y hy rfl
  obtain ⟨p, hp, rfl⟩ := List.mem_map.1 hx
  simpa [hsub.subset hy] using (List.mem_filter.1 hp).2

/-! ## merges -/

/-- **Merging never changes what a lookup returns.** -/
theorem merge_lookup (r : Snap) (sids : List Nat) (n : Nat) (id : Bytes) (h : Inv r) :
    lookup (mergeSegs r sids n) id = lookup r id :=
  (Assoc.lookup_eq_of_perm h (liveDocs_mergeSegs_perm r sids n).symm id).symm

theorem merge_inv (r : Snap) (sids : List Nat) (n : Nat) (h : Inv r) : Inv (mergeSegs r sids n) :=
  ((liveDocs_mergeSegs_perm r sids n).map _).nodup_iff.2 h

theorem merge_docCount (r : Snap) (sids : List Nat) (n : Nat) : docCount (mergeSegs r sids n) = docCount r :=
  (liveDocs_mergeSegs_perm r sids n).length_eq

/-! ## every reachable snapshot -/

inductive Event where
  | batch (b : Batch) (sid : Nat)
  | merge (sids : List Nat) (newSid : Nat)

def step (r : Snap) : Event → Snap
  | .batch b sid => introduce r b sid
  | .merge sids n => mergeSegs r sids n

def run (es : List Event) : Snap := es.foldl step []

def batchesOf : List Event → List Batch
  | [] => []
  | .batch b _ :: es => b :: batchesOf es
  | .merge _ _ :: es => batchesOf es

def WellFormed : List Event → Prop
  | [] => True
  | .batch b _ :: es => (b.map (·.1)).Nodup ∧ WellFormed es
  | .merge _ _ :: es => WellFormed es

/-- last-write-wins replay of batches, as a function of the id -/
def replay : List Batch → Bytes → Option Bytes
  | [], _ => none
  | b :: bs, id =>
    match replayLast (b :: bs) id with
    | some v => v
    | none => none
where
  -- later batches win: the rest is asked first
  replayLast : List Batch → Bytes → Option (Option Bytes)
    | [], _ => none
    | b :: bs, id => match replayLast bs id with
      | some v => some v
      | none => batchSays b id

theorem replay_eq (bs : List Batch) (id : Bytes) :
    replay bs id = match replay.replayLast bs id with
      | some v => v
      | none => none := by
  cases bs <;> rfl

/-- **Reachable snapshots refine the replay**, from any root satisfying the invariant: a lookup returns
    what the latest batch mentioning the id says, or what the starting root held if none does. -/
theorem foldl_step_refines {es : List Event} {r : Snap} (h : Inv r) (hw : WellFormed es) :
    Inv (es.foldl step r) ∧ ∀ id, lookup (es.foldl step r) id =
      match replay.replayLast (batchesOf es) id with
      | some v => v
      | none => lookup r id := by
  induction es generalizing r with
  | nil => exact ⟨h, fun _ => rfl⟩
  | cons e rest ih =>
    cases e with
    | batch b sid =>
      obtain ⟨hinv, hl⟩ := ih (introduce_inv r b sid hw.1 h) hw.2
      refine ⟨hinv, fun id => ?_⟩
      rw [List.foldl_cons, step, hl id, introduce_lookup r b sid id hw.1]
      simp only [batchesOf, replay.replayLast]
      cases replay.replayLast (batchesOf rest) id with
      | some v => rfl
      | none =>
        cases batchSays b id with
        | none => rfl
        | some v => cases v <;> rfl
    | merge sids n =>
      obtain ⟨hinv, hl⟩ := ih (merge_inv r sids n h) hw
      refine ⟨hinv, fun id => ?_⟩
      rw [List.foldl_cons, step, hl id, merge_lookup r sids n id h]
      rfl

theorem run_inv {es : List Event} (hw : WellFormed es) : Inv (run es) :=
  (foldl_step_refines (r := []) .nil hw).1

theorem reachable_refines (es : List Event) (id : Bytes) (hw : WellFormed es) :
    lookup (run es) id = replay (batchesOf es) id ∧ Inv (run es) :=
  -- from the empty root, where `lookup [] id` computes to `none`
  ⟨((foldl_step_refines (r := []) .nil hw).2 id).trans (replay_eq _ id).symm, run_inv hw⟩

/-- DocCount is the number of distinct live ids (under the invariant the live ids are distinct) -/
theorem docCount_eq_ids (r : Snap) : docCount r = ((liveDocs r).map (·.1)).length := by
  simp [docCount]

example : lookup (run [.batch [([1], some [10]), ([2], some [20])] 1, .batch [([1], none), ([3], some [30])] 2, .merge [1, 2] 3]) [2]
    = some [20] := by decide

end Bleve.Snapshot
