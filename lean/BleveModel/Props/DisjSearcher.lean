import BleveModel.Model.DisjSearcher
import BleveModel.Props.ConjSearcher
/-!
# The disjunction searcher keeps the searcher contract and yields the clauses' matches with a minimum

For every behaviour of the clause searchers outside their contract, every reachable state and every
program of `Next` / `Advance` calls, the machine of `Model/DisjSearcher.lean` (`updateMatches`, the
loop of `Next` that skips documents matched by too few clauses, `Advance`) answers like the contract
machine over `disjDen`: the documents matched by at least `max 1 min` clauses, ascending.

Both `Advance` and a round of `Next` make every clause skip to a target (the round: past the smallest
cursor), and then so does the disjunction (`disjDen_skip`).  Equalities between ascending lists are
obtained from membership (`Asc.ext`).  Of Props/ConjSearcher only `AllOk` and `size` are used.
-/
namespace Bleve.DisjSearcher
open Bleve.BoolSearcher (Ch Weird Op Asc Pops advBehind_all advBehind_ok fresh_next_all fresh_next_ok
  runSpec_of_pops)
open Bleve.ConjSearcher (AllOk size)

/-! ## the denotation -/

theorem mem_insertAsc (x d : Nat) (l : List Nat) : d ∈ insertAsc x l ↔ d = x ∨ d ∈ l := by
  fun_induction insertAsc x l with
  | case1 => simp  -- `[]`
  | case2 => simp  -- `x < y`: in front
  | case3 => simp  -- `x = y`: dropped
  | case4 y ys _ _ ih => simp only [List.mem_cons, ih, or_left_comm]  -- `y < x`: into the tail

theorem insertAsc_asc (x : Nat) (l : List Nat) (h : Asc l) : Asc (insertAsc x l) := by
  fun_induction insertAsc x l with
  | case1 => exact List.pairwise_singleton _ _  -- `[]`
  | case2 y ys hlt =>
    -- `x < y`: in front
    have hy := List.pairwise_cons.1 h
    exact List.pairwise_cons.2 ⟨List.forall_mem_cons.2 ⟨hlt, fun z hz => Nat.lt_trans hlt (hy.1 z hz)⟩, h⟩
  | case3 => exact h  -- `x = y`: dropped
  | case4 y ys hlt hne ih =>
    -- `y < x`: into the tail
    have hy := List.pairwise_cons.1 h
    refine List.pairwise_cons.2 ⟨fun z hz => ?_, ih hy.2⟩
    rcases (mem_insertAsc x z ys).1 hz with rfl | hz
    · exact Nat.lt_of_le_of_ne (Nat.le_of_not_lt hlt) (Ne.symm hne)
    · exact hy.1 z hz

theorem unionAsc_asc (ls : List (List Nat)) : Asc (unionAsc ls) := by
  unfold unionAsc
  induction ls.flatten with
  | nil => exact List.Pairwise.nil
  | cons x xs ih => exact insertAsc_asc x _ ih

theorem mem_unionAsc (ls : List (List Nat)) (d : Nat) : d ∈ unionAsc ls ↔ ∃ l ∈ ls, d ∈ l := by
  rw [← List.mem_flatten]
  unfold unionAsc
  induction ls.flatten with
  | nil => rfl
  | cons x xs ih => rw [List.foldr_cons, mem_insertAsc, ih, List.mem_cons]

theorem disjDen_asc (ls : List (List Nat)) (min : Nat) : Asc (disjDen ls min) :=
  List.Pairwise.sublist List.filter_sublist (unionAsc_asc ls)

theorem exists_of_mem_disjDen {ls : List (List Nat)} {min d : Nat} (h : d ∈ disjDen ls min) : ∃ l ∈ ls, d ∈ l :=
  (mem_unionAsc ls d).1 (List.mem_filter.1 h).1

theorem cnt_pos_iff (ls : List (List Nat)) (d : Nat) : 0 < cnt ls d ↔ ∃ l ∈ ls, d ∈ l := by
  simp only [cnt, List.length_pos_iff_exists_mem, List.mem_filter, List.contains_iff_mem]

theorem mem_disjDen (ls : List (List Nat)) (min d : Nat) : d ∈ disjDen ls min ↔ max 1 min ≤ cnt ls d := by
  unfold disjDen
  rw [List.mem_filter, mem_unionAsc, decide_eq_true_eq, ← cnt_pos_iff]
  exact and_iff_right_of_imp (Nat.le_trans (Nat.le_max_left 1 min))

theorem disjDen_skip {ls : List (List Nat)} (hasc : ∀ l ∈ ls, Asc l) (min t : Nat) :
    disjDen (ls.map (·.dropWhile (· < t))) min = (disjDen ls min).dropWhile (· < t) := by
  refine Asc.ext (disjDen_asc _ _) (Asc.dropWhile_asc (disjDen_asc _ _) t) fun d => ?_
  rw [Asc.mem_dropWhile (disjDen_asc _ _)]
  by_cases htd : t ≤ d
  · -- at or after the target a clause holds `d` exactly when it did before
    have hcnt : cnt (ls.map (·.dropWhile (· < t))) d = cnt ls d := by
      rw [cnt, List.filter_map, List.length_map]
      exact congrArg List.length (List.filter_congr fun l hl => Asc.contains_dropWhile (hasc l hl) htd)
    rw [and_iff_left htd, mem_disjDen, mem_disjDen, hcnt]
  · -- before the target no clause holds `d` any more
    refine iff_of_false (fun h => ?_) fun h => htd h.2
    obtain ⟨_, hl', hd⟩ := exists_of_mem_disjDen h
    obtain ⟨l, hl, rfl⟩ := List.mem_map.1 hl'
    exact htd ((Asc.mem_dropWhile (hasc l hl)).1 hd).2

theorem abs_map_skip {f : Ch → Ch} {t : Nat} {st : St} (hok : AllOk st.chs)
    (hf : ∀ c ∈ st.chs, (f c).all = c.all.dropWhile (· < t)) :
    abs { st with chs := st.chs.map f } = (abs st).dropWhile (· < t) := by
  unfold abs
  rw [← disjDen_skip (List.forall_mem_map.2 fun c hc => (hok c hc).1), List.map_map, List.map_map]
  exact congrArg (disjDen · st.min) (List.map_congr_left hf)

/-! ## the smallest cursor -/

theorem minCur_eq_min? (chs : List Ch) : minCur chs = (chs.filterMap (·.curr)).min? := by
  fun_induction minCur chs with
  | case1 => rfl  -- `[]`
  | case2 c cs ih =>
    -- `c :: cs`: `optMin` of the first cursor and the smallest of the rest
    rw [ih]
    cases hc : c.curr with
    | none =>
      rw [List.filterMap_cons_none hc]
      rfl
    | some a =>
      rw [List.filterMap_cons_some hc, List.min?_cons]
      cases (cs.filterMap (·.curr)).min? <;> rfl

theorem minCur_none {chs : List Ch} : minCur chs = none ↔ ∀ c ∈ chs, c.curr = none := by
  rw [minCur_eq_min?, List.min?_eq_none_iff, List.filterMap_eq_nil_iff]

theorem minCur_some {chs : List Ch} {m : Nat} : minCur chs = some m ↔
    (∃ c ∈ chs, c.curr = some m) ∧ ∀ c ∈ chs, ∀ v, c.curr = some v → m ≤ v := by
  rw [minCur_eq_min?, List.min?_eq_some_iff]
  simp only [List.mem_filterMap]
  exact and_congr_right fun _ => ⟨fun h c hc v hv => h v ⟨c, hc, hv⟩, fun h v ⟨c, hc, hv⟩ => h c hc v hv⟩

theorem le_all_of_le_curr {c : Ch} (hok : c.ok) {m : Nat} (hle : ∀ v, c.curr = some v → m ≤ v) :
    ∀ d ∈ c.all, m ≤ d := fun d hd => by
  cases hv : c.curr with
  | none =>
    rw [hok.all_eq_nil hv] at hd
    cases hd
  | some v => exact Nat.le_trans (hle v hv) (Asc.head?_le hok.1 (hok.curr_eq.symm.trans hv) hd)

/-- a clause whose matches are all at or after `m` holds `m` exactly when its cursor is on it -/
theorem curr_beq_of_le {c : Ch} (hok : c.ok) {m : Nat} (hle : ∀ d ∈ c.all, m ≤ d) :
    (c.curr == some m) = c.all.contains m := by
  rw [hok.curr_eq, Bool.eq_iff_iff, List.contains_iff_mem, beq_iff_eq, Asc.head?_eq_some_iff hok.1 hle]

theorem cnt_eq_matching {chs : List Ch} (hok : AllOk chs) {m : Nat} (hle : ∀ c ∈ chs, ∀ d ∈ c.all, m ≤ d) :
    cnt (chs.map Ch.all) m = matchingCount chs m := by
  unfold cnt matchingCount
  rw [List.filter_map, List.length_map]
  exact congrArg List.length (List.filter_congr fun c hc => (curr_beq_of_le (hok c hc) (hle c hc)).symm)

/-! ## one round of the loop -/

theorem size_map_lt {f : Ch → Ch} (hf : ∀ c, (f c).all.length ≤ c.all.length) (chs : List Ch) :
    size (chs.map f) ≤ size chs ∧
    ((∃ c ∈ chs, (f c).all.length < c.all.length) → size (chs.map f) < size chs) := by
  induction chs with
  | nil => exact ⟨Nat.le_refl _, fun ⟨_, hc, _⟩ => nomatch hc⟩
  | cons a as ih =>
    refine ⟨Nat.add_le_add (hf a) ih.1, fun ⟨c, hc, hlt⟩ => ?_⟩
    rcases List.mem_cons.1 hc with rfl | hc
    · exact Nat.add_lt_add_of_lt_of_le hlt ih.1
    · exact Nat.add_lt_add_of_le_of_lt (hf a) (ih.2 ⟨c, hc, hlt⟩)

theorem stepMatching_ok {chs : List Ch} (hok : AllOk chs) (m : Nat) : AllOk (stepMatching chs m) := by
  refine List.forall_mem_map.2 fun c hc => ?_
  split
  · exact Ch.next_ok (hok c hc).asc_rem
  · exact hok c hc

theorem size_step_lt {chs : List Ch} {m : Nat} (h : ∃ c ∈ chs, c.curr = some m) :
    size (stepMatching chs m) < size chs := by
  obtain ⟨cm, hcm, hcmv⟩ := h
  refine (size_map_lt (fun c => ?_) chs).2 ⟨cm, hcm, ?_⟩
  · split
    · rw [Ch.next_all, Ch.all, List.length_append]
      exact Nat.le_add_left _ _
    · exact Nat.le_refl _
  · rw [if_pos (by simp [hcmv]), Ch.next_all, Ch.all_of_curr_some hcmv]
    exact Nat.lt_succ_self _

/-- what `stepMatching` does to a clause whose matches are all at or after `m`: it skips past `m` -/
theorem step_all {c : Ch} (hok : c.ok) {m : Nat} (hall : ∀ d ∈ c.all, m ≤ d) :
    (if c.curr == some m then c.next else c).all = c.all.dropWhile (· < m + 1) := by
  by_cases h : c.curr = some m
  · rw [if_pos (beq_iff_eq.2 h)]
    exact hok.next_all_of_curr h
  · -- the cursor is not on `m`, so `m` is no match of the clause
    rw [if_neg (mt beq_iff_eq.1 h)]
    rw [← beq_iff_eq, curr_beq_of_le hok hall, List.contains_iff_mem] at h
    exact (Asc.dropWhile_succ_of_not_mem hall h).symm

theorem abs_step {st : St} (hok : AllOk st.chs) {m : Nat} (hall : ∀ c ∈ st.chs, ∀ d ∈ c.all, m ≤ d) :
    abs { st with chs := stepMatching st.chs m } = (abs st).dropWhile (· < m + 1) :=
  abs_map_skip hok fun c hc => step_all (hok c hc) (hall c hc)

theorem exists_of_mem_abs {st : St} {d : Nat} (hd : d ∈ abs st) : ∃ c ∈ st.chs, d ∈ c.all := by
  obtain ⟨l, hl, hdl⟩ := exists_of_mem_disjDen hd
  obtain ⟨c, hc, rfl⟩ := List.mem_map.1 hl
  exact ⟨c, hc, hdl⟩

/-- **One round**: the smallest cursor `m` is the next match exactly when enough clauses sit on it, and
    moving those clauses on leaves the matches after `m` -/
theorem abs_round {st : St} (hok : AllOk st.chs) {m : Nat} (hm : minCur st.chs = some m) :
    abs st = (if st.min ≤ matchingCount st.chs m then [m] else []) ++
      abs { st with chs := stepMatching st.chs m } := by
  obtain ⟨⟨cm, hcm, hcmv⟩, hle⟩ := minCur_some.1 hm
  have hall : ∀ c ∈ st.chs, ∀ d ∈ c.all, m ≤ d := fun c hc => le_all_of_le_curr (hok c hc) (hle c hc)
  have hge : ∀ d ∈ abs st, m ≤ d := fun d hd => by
    obtain ⟨c, hc, hdc⟩ := exists_of_mem_abs hd
    exact hall c hc d hdc
  have hmem : m ∈ abs st ↔ st.min ≤ matchingCount st.chs m := by
    have hpos : 0 < matchingCount st.chs m :=
      List.length_pos_iff_exists_mem.2 ⟨cm, List.mem_filter.2 ⟨hcm, by simp [hcmv]⟩⟩
    unfold abs
    rw [mem_disjDen, cnt_eq_matching hok hall, Nat.max_le]
    exact and_iff_right hpos
  rw [abs_step hok hall]
  by_cases hf : st.min ≤ matchingCount st.chs m
  · rw [if_pos hf]
    exact (Asc.dropWhile_succ_of_mem (disjDen_asc _ _) hge (hmem.2 hf)).symm
  · rw [if_neg hf]
    exact (Asc.dropWhile_succ_of_not_mem hge fun h => hf (hmem.1 h)).symm

theorem nextLoop_spec (fuel : Nat) (st : St) (hok : AllOk st.chs) (hfuel : size st.chs < fuel) :
    Pops (AllOk ·.chs) abs (nextLoop fuel st) (abs st) := by
  fun_induction nextLoop fuel st with
  | case1 => exact absurd hfuel (Nat.not_lt_zero _)  -- out of fuel
  | case2 fuel st hm =>
    -- no cursor: no clause has anything left
    have hnil : abs st = [] := List.eq_nil_iff_forall_not_mem.2 fun d hd => by
      obtain ⟨c, hc, hdc⟩ := exists_of_mem_abs hd
      rw [(hok c hc).all_eq_nil (minCur_none.1 hm c hc)] at hdc
      cases hdc
    exact .none hok hnil hnil
  | case3 fuel st m hm st' hf =>
    -- enough clauses sit on the smallest cursor `m`
    exact .some (stepMatching_ok hok m) ((abs_round hok hm).trans (by rw [if_pos hf]; rfl))
  | case4 fuel st m hm st' hf ih =>
    -- too few: another round; the clauses on `m` have moved on, so the size has dropped
    rw [abs_round hok hm, if_neg hf]
    exact ih (stepMatching_ok hok m)
      (Nat.lt_of_lt_of_le (size_step_lt (minCur_some.1 hm).1) (Nat.le_of_lt_succ hfuel))

theorem next_spec (st : St) (hok : AllOk st.chs) : Pops (AllOk ·.chs) abs (next st) (abs st) :=
  nextLoop_spec _ st hok (Nat.lt_succ_self _)

theorem nextLoop_min (fuel : Nat) (st : St) : (nextLoop fuel st).2.min = st.min := by
  fun_induction nextLoop fuel st with
  | case1 => rfl  -- out of fuel
  | case2 => rfl  -- no cursor
  | case3 => rfl  -- a match: only `chs` changes
  | case4 _ _ _ _ _ _ ih => exact ih  -- too few clauses on the smallest cursor: another round

theorem advance_spec (w : Weird) (t : Nat) (st : St) (hok : AllOk st.chs) :
    Pops (AllOk ·.chs) abs (advance w t st) ((abs st).dropWhile (· < t)) := by
  rw [← abs_map_skip hok fun c _ => advBehind_all w t c]
  exact next_spec _ (List.forall_mem_map.2 fun c hc => advBehind_ok w t (hok c hc))

/-- **Refinement**: for every behaviour of the clause searchers outside their contract, every reachable
    state and every program of `Next` and `Advance` calls, the disjunction searcher answers exactly like
    the contract machine over the documents enough clauses still match. -/
theorem run_refines (w : Weird) : ∀ (ops : List Op) (st : St), AllOk st.chs →
    runImpl w st ops = Bleve.BoolSearcher.runSpec (abs st) ops :=
  runSpec_of_pops (fun _ => rfl) (fun _ _ => rfl) (fun _ _ _ => rfl) next_spec (advance_spec w)

theorem abs_init (clauses : List (List Nat)) (min : Nat) : abs (init clauses min) = disjDen clauses min := by
  unfold abs init
  rw [List.map_map]
  exact congrArg (disjDen · min)
    ((List.map_congr_left fun l _ => fresh_next_all l).trans (List.map_id _))

/-- **The disjunction searcher is correct**: built over clauses whose searchers keep the contract, for
    every program of `Next` and `Advance` calls and whatever the clause searchers do outside their
    contract, it answers like the contract machine over the documents matched by at least `max 1 min`
    clauses. -/
theorem disj_searcher_correct (w : Weird) (clauses : List (List Nat)) (min : Nat)
    (h : ∀ l ∈ clauses, Asc l) (ops : List Op) :
    runImpl w (init clauses min) ops = Bleve.BoolSearcher.runSpec (disjDen clauses min) ops := by
  rw [run_refines w ops (init clauses min)
    (List.forall_mem_map.2 fun l hl => fresh_next_ok (h l hl)), abs_init]

example : runImpl (fun _ c => c) (init [[1, 3, 5, 8, 9], [3, 5, 9], [0, 3, 8, 9]] 2) [.next, .next, .adv 6, .next, .next]
    = [some 3, some 5, some 8, some 9, none] := by decide
example : disjDen [[1, 3], [3, 5]] 0 = [1, 3, 5] := by decide

end Bleve.DisjSearcher
