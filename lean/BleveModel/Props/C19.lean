import BleveModel.Model.Text
/-!
# C19 — Analysis and highlighting never panic; offsets always point into the source text

"Every registered analyzer, tokenizer, token filter and character filter terminates without
panicking on any byte string, and every tokenizer emits tokens with 0 <= Start <= End <= len(input),
non-decreasing starts and positive, non-decreasing positions. Highlighting never panics for any
stored value and any term locations, and when the field's analyzer does not change the text length
before tokenising, every fragment with markup and escaping removed is a contiguous piece of the
stored value in which every marked span is the text at a matched term's location."

**Partial.**  Proved here, for every input: the offset / position clause for bleve's own
character-class tokenizer (the base of `letter` and `whitespace`), on a model that is compared with
the real tokenizer on every run.  Everything else — the ~110 registered components built on
third-party libraries, termination, absence of panics, the highlighter clauses — cannot be carried
by an executable Lean model of this size and is *explored* by `./check C19` (every registry entry on
structured and raw byte strings under recover and a time limit; fragmenter, formatter and
highlighters end to end and with arbitrary term locations).
-/
namespace Bleve.Text

/-- what the statement asks of the final token list, relative to the input length -/
structure Good (n : Nat) (l : List Tok) : Prop where
  bounds : ∀ t ∈ l, t.start < t.stop ∧ t.stop ≤ n
  ord : l.Pairwise (fun a b => a.stop ≤ b.start ∧ a.pos < b.pos)
  pos : ∀ t ∈ l, 1 ≤ t.pos ∧ t.pos ≤ l.length

theorem Good.mono {n m : Nat} {l : List Tok} (h : Good n l) (hnm : n ≤ m) : Good m l :=
  ⟨fun t ht => ⟨(h.bounds t ht).1, Nat.le_trans (h.bounds t ht).2 hnm⟩, h.ord, h.pos⟩

theorem Good.push {s e : Nat} {l : List Tok} (h : Good s l) (hse : s < e) :
    Good e (l ++ [⟨s, e, l.length + 1⟩]) := by
  refine { bounds := ?_, ord := ?_, pos := ?_ }
  · exact List.forall_mem_append.2
      ⟨(h.mono (Nat.le_of_lt hse)).bounds, List.forall_mem_singleton.2 ⟨hse, Nat.le_refl e⟩⟩
  · -- every earlier token ends by `s` and has a position below the new one
    exact List.pairwise_append.2 ⟨h.ord, List.pairwise_singleton _ _, fun a ha =>
      List.forall_mem_singleton.2 ⟨(h.bounds a ha).2, Nat.lt_succ_of_le (h.pos a ha).2⟩⟩
  · rw [List.length_append, List.length_singleton]
    exact List.forall_mem_append.2 ⟨fun t ht => ⟨(h.pos t ht).1, Nat.le_succ_of_le (h.pos t ht).2⟩,
      List.forall_mem_singleton.2 ⟨Nat.le_add_left 1 _, Nat.le_refl _⟩⟩

theorem finish_good {n s e c : Nat} {acc : List Tok} (hen : e ≤ n) (hse : s ≤ e) (hc : c = acc.length)
    (h : Good s acc) : Good n (if e > s then acc ++ [⟨s, e, c + 1⟩] else acc) := by
  subst hc
  split
  · next hes => exact (h.push hes).mono hen
  · exact h.mono (Nat.le_trans hse hen)

theorem go_good (runes : List (Nat × Nat)) {o s e c : Nat} {acc : List Tok}
    (hse : s ≤ e) (heo : e ≤ o) (hc : c = acc.length) (h : Good s acc) :
    Good (o + totalBytes runes) (go runes o s e c acc) := by
  induction runes generalizing o s e c acc with
  | nil => exact finish_good heo hse hc h
  | cons r rest ih =>
    obtain ⟨sz, k⟩ := r
    rw [show o + totalBytes ((sz, k) :: rest) = o + sz + totalBytes rest by simp [totalBytes, Nat.add_assoc]]
    have hos : e ≤ o + sz := Nat.le_trans heo (Nat.le_add_right o sz)
    by_cases h2 : (k == 2) = true
    · -- RuneError: the loop stops
      rw [go, if_pos h2]
      exact finish_good (Nat.le_trans hos (Nat.le_add_right _ _)) hse hc h
    by_cases h1 : (k == 1) = true
    · -- token rune: the open token now ends behind it
      rw [go, if_neg h2, if_pos h1]
      exact ih (Nat.le_trans hse hos) (Nat.le_refl _) hc h
    by_cases hes : e > s
    · -- separator closing a token
      subst hc
      rw [go, if_neg h2, if_neg h1, if_pos hes]
      exact ih (Nat.le_refl _) (Nat.le_refl _) (by simp) ((h.push hes).mono hos)
    · -- separator with no open token
      rw [go, if_neg h2, if_neg h1, if_neg hes]
      exact ih (Nat.le_refl _) (Nat.le_refl _) hc (h.mono (Nat.le_trans hse hos))

/-- **Tokenizer offsets.** For every input (valid or invalid UTF-8, any length): every token has
    `0 ≤ Start < End ≤ len(input)`, tokens do not overlap and come in increasing start order, and
    positions are positive, strictly increasing and at most the number of tokens (so they are
    exactly 1, 2, …). -/
theorem tokenizer_offsets (runes : List (Nat × Nat)) :
    Good (totalBytes runes) (charTokenize runes) := by
  rw [← Nat.zero_add (totalBytes runes)]
  exact go_good runes (Nat.le_refl 0) (Nat.le_refl 0) rfl ⟨nofun, .nil, nofun⟩

/-- positions are exactly 1, 2, …, n -/
theorem positions_exact (runes : List (Nat × Nat)) :
    ∀ t ∈ charTokenize runes, 1 ≤ t.pos ∧ t.pos ≤ (charTokenize runes).length :=
  (tokenizer_offsets runes).pos

example : charTokenize [(1, 1), (1, 1), (1, 0), (2, 1), (1, 2), (1, 1)] = [⟨0, 2, 1⟩, ⟨3, 5, 2⟩] := by decide

end Bleve.Text
